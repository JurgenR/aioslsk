import AioslskVerif.Proofs.XferTasks
/-!
# C06 — after abort / pause / remove returns, nothing more happens for that transfer

The model is the code **with** `fixes/C06-single-flight.patch`, `fixes/C06-init-download-refused.patch` and
`fixes/C06-peer-queue-removed.patch` (what each changes: head of `Model/XferTasks.lean`).  `run ops` is the
state after any list of ops, i.e. any schedule of the abstraction: cycles looking at any transfers at any
instant, peer transfer requests **also while a call holds the state lock**, the peer's refusal /
PeerUploadFailed, first steps / ends (any outcome) / done-callbacks of any task in any order, calls of
abort / pause / remove at any point, the intermediate step of remove and their returns, re-queues, downloads
that failed without a reason (retried by the manager), uploads whose task calls `state.fail()` and goes on
(FAILED with a live task), `PeerTransferQueue` for an upload in the list arriving (`peerQueueStart`) and its
handler being resumed (`peerQueueEnd`) at any later point.  On the tree without the first patch
`C06_single_flight` and `C06_quiescent_after_cancel` are false (`fixes/C06-single-flight.md`); without the
second the initialisation started by a peer request during a call went on after the call had returned
(`fixes/C06-init-download-refused.md`); the witnesses are replayed by the check.
-/
namespace AioslskVerif.C06
open AioslskVerif.Tasks

/-- Single flight: in every reachable state a task that has not finished is the one its
transfer's slot holds (remote-queue tasks in `_remotely_queue_task`, initialisation tasks in
`_transfer_task`) — so `cancel_tasks()` reaches everything that is in flight. -/
theorem C06_single_flight (ops : List Op) (t : Nat) (hl : ((run ops).tasks t).live = true) :
    ((run ops).xs ((run ops).tasks t).xfer).slotOf ((run ops).tasks t).kind = some t :=
  (inv_run ops).single t hl

/-- … hence at most one remote-queue attempt and one initialisation per transfer at any time. -/
theorem C06_single_flight_unique (ops : List Op) (t u : Nat)
    (ht : ((run ops).tasks t).live = true) (hu : ((run ops).tasks u).live = true)
    (hx : ((run ops).tasks t).xfer = ((run ops).tasks u).xfer)
    (hk : ∀ x : XT, x.slotOf ((run ops).tasks t).kind = x.slotOf ((run ops).tasks u).kind) : t = u := by
  have h1 := C06_single_flight ops t ht
  have h2 := C06_single_flight ops u hu
  rw [hx, hk] at h1
  rw [h1] at h2
  exact Option.some.inj h2

/-- Quiescence: once `abort` / `pause` / `remove` has returned for transfer `k` (`quiet`), then
along **every** continuation that contains no user / peer action on `k` (no re-queue, no further
call, no peer message for it) — but any cycles, any steps of any task including the first step and
the end of an initialisation that a peer request started *while the call was in progress*: state,
`remotely_queued`, `queue_attempts`, the count of connection attempts / messages / field changes made
on its behalf and its membership of the transfer list all stay what they were when the call returned;
and whatever task of `k` is still alive is inert — cancelled (a later call waits for it), or such a
late initialisation that is still before `state.initialize()` or was refused by it (all it does is
answer the peer `allowed=False`). -/
theorem C06_quiescent_after_cancel (ops ops' : List Op) (k : Nat) (hk : k < (run ops).nx)
    (hq : ((run ops).xs k).quiet = true) (hn : ∀ op ∈ ops', op.addresses k = false) :
    obs ((run (ops ++ ops')).xs k) = obs ((run ops).xs k) ∧
      ∀ t, ((run (ops ++ ops')).tasks t).live = true → ((run (ops ++ ops')).tasks t).xfer = k →
        Inert ((run (ops ++ ops')).tasks t) := by
  have hrun : run (ops ++ ops') = ops'.foldl step (run ops) := by simp [run, List.foldl_append]
  rw [hrun]
  exact quiet_foldl (inv_run ops) hk hq ops' hn

/-- An inert task does nothing for its transfer: in a reachable state in which `k` is quiet, the next
step of a live task of `k` (first step with any lock situation, end with any outcome) leaves every
observed field of `k` unchanged — in particular the late initialisation finds the transition refused. -/
theorem C06_inert_task_is_silent (ops : List Op) (k t : Nat) (o : Outcome) (hk : k < (run ops).nx)
    (hq : ((run ops).xs k).quiet = true) :
    obs ((step (run ops) (.taskStart t)).xs k) = obs ((run ops).xs k) ∧
      obs ((step (run ops) (.taskEnd t o)).xs k) = obs ((run ops).xs k) :=
  ⟨(obs_step_of_quiet (inv_run ops) hk hq (.taskStart t) rfl).1,
    (obs_step_of_quiet (inv_run ops) hk hq (.taskEnd t o) rfl).1⟩

/-- A peer message handler that found the transfer BEFORE the call returned and is resumed AFTER it (it was waiting
for the shares manager): being resumed is not an action of the peer — `peerQueueEnd k` may occur anywhere in the
continuation of `C06_quiescent_after_cancel` — and it leaves a quiet transfer exactly as it is (it looks the transfer
up again: one that left the list is not touched; one that is ABORTED / PAUSED is not re-queued by this message). -/
theorem C06_suspended_handler_is_silent (ops : List Op) (k : Nat) (hk : k < (run ops).nx)
    (hq : ((run ops).xs k).quiet = true) :
    obs ((step (run ops) (.peerQueueEnd k)).xs k) = obs ((run ops).xs k) :=
  (obs_step_of_quiet (inv_run ops) hk hq (.peerQueueEnd k) rfl).1

/-- The return of a call makes the transfer quiet, and it can only return when every task it
cancelled has finished (for `remove`: after its `abort` part is through, `removeMid`). -/
theorem C06_return_is_quiet (s : TS) (k : Nat) (c : CallKind) (hl : (s.xs k).locked = some c)
    (hw : (s.xs k).waitFor.all (fun t => !(s.tasks t).live) = true) (hr : c = .remove → (s.xs k).removed = true) :
    ((step s (.callResume k)).xs k).quiet = true ∧ ((step s (.callResume k)).xs k).locked = none := by
  simp only [step, hl, hw, true_and]
  rw [if_pos hr]
  simp only [upd_same, and_self]

/-- … and it does not return before: while a task it cancelled is alive, `callResume` is not enabled. -/
theorem C06_no_return_before (s : TS) (k t : Nat) (ht : t ∈ (s.xs k).waitFor) (hlive : (s.tasks t).live = true) :
    step s (.callResume k) = s := by
  simp only [step]
  split
  · have hw : ¬ ((s.xs k).waitFor.all (fun t => !(s.tasks t).live) = true) :=
      fun hw => Bool.false_ne_true ((dead_of_all hw ht).symm.trans hlive)
    simp [hw]
  · rfl

/-- In every reachable state, when a call returns for `k` (any kind, the peer request may have arrived at
any point of the call) everything still alive for `k` is inert. -/
theorem C06_return_leaves_inert (ops : List Op) (k t : Nat)
    (hq : ((run ops).xs k).quiet = true) (hl : ((run ops).tasks t).live = true) (hx : ((run ops).tasks t).xfer = k) :
    Inert ((run ops).tasks t) :=
  (inv_run ops).quietInert k hq t hl hx

/-- a download whose remote-queue attempt hangs, two more cycles (no second task is created), abort
while it hangs: abort returns only after the task is gone, the transfer is quiet and ABORTED -/
example :
    let s := run [.addDownload, .cycle [0], .taskStart 0, .cycle [0], .cycle [0], .call 0 .abort, .taskEnd 0 .ok,
      .doneCallback 0, .callResume 0]
    s.nt = 1 ∧ (s.xs 0).quiet = true ∧ (s.xs 0).st = .aborted ∧ (s.xs 0).rq = false ∧ (s.xs 0).acts = 1 := by decide

/-- the call cannot return while the cancelled task is still alive -/
example :
    let s := run [.addDownload, .cycle [0], .taskStart 0, .call 0 .abort, .callResume 0]
    (s.xs 0).quiet = false ∧ (s.xs 0).locked = some .abort ∧ (s.tasks 0).live = true := by decide

/-- a cycle between the end of a failed attempt and its done-callback starts the next attempt; the
late callback does not clear the new task out of the slot -/
example :
    let s := run [.addDownload, .cycle [0], .taskStart 0, .taskEnd 0 .fail, .cycle [0], .doneCallback 0]
    (s.xs 0).rqSlot = some 1 ∧ (s.tasks 1).live = true ∧ (s.tasks 0).live = false := by decide

/-- a cycle while abort waits (slot already cleared, state still QUEUED) does not start anything -/
example :
    let s := run [.addDownload, .cycle [0], .taskStart 0, .call 0 .abort, .taskEnd 0 .ok, .doneCallback 0, .cycle [0],
      .callResume 0, .cycle [0]]
    s.nt = 1 ∧ (s.xs 0).quiet = true := by decide

/-- the peer refuses the queue request while the remote-queue attempt is still connecting: the download is FAILED
(a state `abort` refuses) with a live task; `remove` takes it off the list at once, cancels the task and returns
only when it is gone — the attempt never delivers (`rq` stays false, nothing counted after the first connect) -/
example :
    let s := run [.addDownload, .cycle [0], .taskStart 0, .peerFail 0, .call 0 .remove, .callResume 0, .cycle [0],
      .taskEnd 0 .ok, .doneCallback 0, .callResume 0, .cycle [0]]
    (s.xs 0).st = .failed ∧ (s.xs 0).removed = true ∧ (s.xs 0).quiet = true ∧ (s.xs 0).rq = false ∧
      (s.xs 0).acts = 1 ∧ s.nt = 1 ∧ (s.tasks 0).live = false := by decide

/-- the peer's transfer request arrives while abort waits for the remote-queue attempt it cancelled: the handler still
sees QUEUED and starts an initialisation (task 1) the call does not wait for; its `state.initialize()` waits for the
lock, abort returns (ABORTED), the task finds the transition refused and ends: nothing was done for the transfer after
the first connect (`acts = 1`), no third task, ABORTED, quiet -/
example :
    let s := run [.addDownload, .cycle [0], .taskStart 0, .call 0 .abort, .peerRequest 0, .taskStart 1, .taskEnd 0 .ok,
      .doneCallback 0, .callResume 0]
    let s' := [Op.cycle [0], .taskEnd 1 .transferring, .doneCallback 1, .cycle [0]].foldl step s
    (s.xs 0).quiet = true ∧ (s.tasks 1).live = true ∧ (s.tasks 1).phase = .refused ∧
      (s'.tasks 1).live = false ∧ (s'.xs 0).st = .aborted ∧ (s'.xs 0).acts = 1 ∧ s'.nt = 2 := by decide

/-- the same during `remove`: when its abort part is through the late initialisation is cancelled with whatever else the
slots hold, and remove returns only when it is gone -/
example :
    let s := run [.addDownload, .cycle [0], .taskStart 0, .call 0 .remove, .peerRequest 0, .taskStart 1, .taskEnd 0 .ok,
      .removeMid 0, .callResume 0]
    let s' := [Op.taskEnd 1 .ok, .callResume 0].foldl step s
    (s.xs 0).locked = some .remove ∧ (s.xs 0).removed = true ∧ (s.tasks 1).cancelReq = true ∧ (s.xs 0).quiet = false ∧
      (s'.xs 0).quiet = true ∧ (s'.tasks 1).live = false ∧ (s'.xs 0).acts = 1 := by decide

/-- a download that failed without a reason is retried by the manager; `remove` takes it off the list at once, so the
cycle that runs between the end of the cancelled attempt and the return of `remove` creates nothing -/
example :
    let s := run [.addFailed, .cycle [0], .taskStart 0, .call 0 .remove, .taskEnd 0 .ok, .doneCallback 0, .cycle [0],
      .callResume 0, .cycle [0]]
    (run [.addFailed, .cycle [0]]).nt = 1 ∧ s.nt = 1 ∧ (s.xs 0).quiet = true ∧ (s.xs 0).removed = true ∧
      (s.xs 0).rq = false := by decide

/-- an upload hits a write error: `state.fail()` and then, in the same task, the delivery of `PeerUploadFailed` over a
slow connection — FAILED with a live task, which is the one the slot holds.  `remove` (the only call FAILED accepts)
cancels it; it returns only when the task is gone; nothing is counted for the transfer after the failure -/
example :
    let s0 := run [.addUpload, .cycle [0], .taskStart 0, .taskEnd 0 .transferring, .taskEnd 0 .failing, .cycle [0]]
    let s := [Op.call 0 .remove, .callResume 0, .taskEnd 0 .ok, .doneCallback 0, .callResume 0, .cycle [0]].foldl step s0
    (s0.xs 0).st = .failed ∧ (s0.tasks 0).live = true ∧ (s0.xs 0).ttSlot = some 0 ∧ s0.nt = 1 ∧
      (s.xs 0).st = .failed ∧ (s.xs 0).removed = true ∧ (s.xs 0).quiet = true ∧ (s.xs 0).acts = (s0.xs 0).acts ∧
      s.nt = 1 ∧ (s.tasks 0).live = false := by decide

/-- … the peer queues the file again while that delivery is still pending: QUEUED, but no second task is started as long as
the slot holds the first; `abort` cancels it and nothing is left -/
example :
    let s := run [.addUpload, .cycle [0], .taskStart 0, .taskEnd 0 .transferring, .taskEnd 0 .failing, .peerQueueStart 0,
      .peerQueueEnd 0, .cycle [0], .call 0 .abort, .taskEnd 0 .ok, .doneCallback 0, .callResume 0, .cycle [0]]
    s.nt = 1 ∧ (s.xs 0).st = .aborted ∧ (s.xs 0).quiet = true ∧ (s.tasks 0).live = false := by decide

/-- the peer's `PeerTransferQueue` for a FAILED upload: the handler finds it and asks the shares manager; the user removes
the upload meanwhile; the handler goes on after `remove` returned and does not touch it.  Without the `remove` the same
handler re-queues it. -/
example :
    let s0 := run [.addUpload, .cycle [0], .taskStart 0, .taskEnd 0 .fail, .doneCallback 0, .peerQueueStart 0]
    let s := [Op.call 0 .remove, .callResume 0, .peerQueueEnd 0].foldl step s0
    (s.xs 0).st = .failed ∧ (s.xs 0).removed = true ∧ (s.xs 0).quiet = true ∧ (s.xs 0).pq = 0 ∧
      ((step s0 (.peerQueueEnd 0)).xs 0).st = .queued := by decide

end AioslskVerif.C06
