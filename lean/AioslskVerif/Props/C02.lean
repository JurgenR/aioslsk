import AioslskVerif.Proofs.Stream
import AioslskVerif.Spec.WireSpec
import AioslskVerif.Generated.Schemas
/-!
# C02 — hostile bytes never crash a reader or desynchronise the stream

The decoders of `Model/Wire.lean` are total functions: every Lean definition terminates, so "parsing
terminates on every byte string" holds of the model by construction; what is *proved* below is that the
work is bounded by the input.
-/
namespace AioslskVerif.C02
open AioslskVerif.Wire AioslskVerif.Stream

/-- **Progress**: a successful parse never yields more bytes than it was given, and a type of
positive size consumes at least one byte. -/
theorem C02_decode_progress (t : Ty) (bs : Bytes) (v : Val) (r : Bytes) (h : dec t bs = .ok (v, r)) :
    r.length ≤ bs.length ∧ (t.pos = true → r.length < bs.length) :=
  dec_progress t bs v r h

/-- **Lying counts**: an array whose elements have positive size cannot be parsed with more
elements than there are bytes — the element loop of `array.deserialize` runs at most
`len(bytes)` successful iterations before it fails, whatever count the sender announced. -/
theorem C02_array_bounded (e : Ty) (n : Nat) (bs : Bytes) (vs : List Val) (r : Bytes)
    (hp : e.pos = true) (h : decList e n bs = .ok (vs, r)) : n + r.length ≤ bs.length := by
  have := decList_progress_of (k := 1) (fun bs v r h => (dec_progress e bs v r h).2 hp) n bs vs r h
  omega

theorem C02_lying_count_rejected (e : Ty) (n : Nat) (bs : Bytes) (hp : e.pos = true)
    (hn : bs.length < n) : ∃ err, decList e n bs = .error err := by
  cases h : decList e n bs with
  | error err => exact ⟨err, rfl⟩
  | ok p =>
    obtain ⟨vs, r⟩ := p
    have := C02_array_bounded e n bs vs r hp h
    omega

/-- every array in the schema table regenerated from the source has elements of positive size
(re-decided on every run; it is part of `tableWf`) -/
theorem C02_generated_arrays_bounded :
    Generated.Schemas.schemas.all (fun s => s.fields.all (fun f => f.ty.arrOk && f.ty.pos)) = true := by
  decide +kernel

/-- wire form of a list of frames on one connection: every frame with its own key when the
connection is obfuscated -/
def wire (obf : Bool) (frames : List (Bytes × Bytes)) : Bytes :=
  frames.flatMap (fun kb => wireFrame (if obf then some kb.1 else none) kb.2)

def GoodFrames (frames : List (Bytes × Bytes)) : Prop :=
  ∀ kb ∈ frames, kb.1.length = 4 ∧ kb.2.length < 4294967296

theorem readerAux_frames {μ : Type} (obf : Bool) (decode : Bytes → Option μ) :
    ∀ (frames : List (Bytes × Bytes)) (fuel : Nat), GoodFrames frames → frames.length < fuel →
    readerAux obf decode fuel (wire obf frames) =
      (frames.filterMap (fun kb => decode (le32 kb.2.length ++ kb.2))).map Event.deliver
        ++ [Event.closed Close.eof]
  | [], fuel + 1, _, _ => rfl
  | [], 0, _, h | _ :: _, 0, _, h => by cases h
  | kb :: rest, fuel + 1, hg, hf => by
    have hkb := hg kb (List.mem_cons_self ..)
    have ih := readerAux_frames obf decode rest fuel (fun x hx => hg x (List.mem_cons_of_mem _ hx))
      (Nat.lt_of_succ_lt_succ hf)
    show readerAux obf decode (fuel + 1) (wireFrame (if obf then some kb.1 else none) kb.2 ++ wire obf rest) = _
    rw [readerAux_frame obf decode fuel kb.1 kb.2 (wire obf rest) hkb.1 hkb.2, ih, List.filterMap_cons]
    cases decode (le32 kb.2.length ++ kb.2) <;> rfl

theorem wireFrame_length (key : Option Bytes) (b : Bytes) : 4 ≤ (wireFrame key b).length := by
  cases key with
  | none =>
    show 4 ≤ (le32 _ ++ b).length
    rw [List.length_append]; exact Nat.le_add_right 4 _
  | some k =>
    show 4 ≤ (Obfs.encode k _).length
    rw [Obfs.encode_eq, List.length_append, Obfs.encSpec_length, List.length_append, le32_length]
    omega

theorem wire_length (obf : Bool) : ∀ frames, frames.length ≤ (wire obf frames).length
  | [] => Nat.le_refl _
  | kb :: rest => by
    have := wire_length obf rest
    have := wireFrame_length (if obf then some kb.1 else none) kb.2
    show _ ≤ (wireFrame _ kb.2 ++ wire obf rest).length
    rw [List.length_append, List.length_cons]; omega

/-- **Framing and delivery**: on a stream of well-framed bodies (plain, or obfuscated with any key
per frame) followed by EOF, the reader delivers exactly the decodable frames, once each, in
order — a frame that does not decode is dropped and neither shifts, duplicates nor suppresses any
later frame — and then closes with EOF. -/
theorem C02_delivery {μ : Type} (obf : Bool) (decode : Bytes → Option μ) (frames : List (Bytes × Bytes))
    (hg : GoodFrames frames) :
    reader obf decode (wire obf frames) =
      (frames.filterMap (fun kb => decode (le32 kb.2.length ++ kb.2))).map Event.deliver
        ++ [Event.closed Close.eof] := by
  unfold reader
  exact readerAux_frames obf decode frames _ hg (by have := wire_length obf frames; omega)

/-- **A bad frame does not affect its neighbours**: inserting an undecodable frame anywhere in the
stream leaves the delivered sequence unchanged. -/
theorem C02_bad_frame_isolated {μ : Type} (obf : Bool) (decode : Bytes → Option μ)
    (pre post : List (Bytes × Bytes)) (bad : Bytes × Bytes)
    (hg : GoodFrames (pre ++ bad :: post)) (hbad : decode (le32 bad.2.length ++ bad.2) = none) :
    reader obf decode (wire obf (pre ++ bad :: post)) = reader obf decode (wire obf (pre ++ post)) := by
  have hg' : GoodFrames (pre ++ post) := fun x hx => hg x (by
    simp only [List.mem_append, List.mem_cons] at hx ⊢; rcases hx with h | h <;> simp [h])
  rw [C02_delivery obf decode _ hg, C02_delivery obf decode _ hg']
  simp [List.filterMap_append, hbad]

/-- **The loop only ends with the connection**: whatever the bytes (truncated header, truncated
body, lying length, garbage), the reader's run is a list of deliveries followed by exactly one
close event — it never stops while the connection stays open. -/
theorem C02_reader_exit {μ : Type} (obf : Bool) (decode : Bytes → Option μ) (s : Bytes) :
    ∃ (ms : List μ) (c : Close), reader obf decode s = ms.map Event.deliver ++ [Event.closed c] :=
  let ⟨ms, c, h, _⟩ := readerSilentAux_spec obf decode _ s
  ⟨ms, c, h⟩

/-- **A frame that never completes does not park the reader.** When the same bytes are followed by
silence instead of EOF (a truncated header, a body shorter than its header announces — a *lying
length* — or simply an idle connection), everything complete before that point is delivered exactly
as it would have been, and the run ends with the connection being closed by the read time-out:
the reader never waits for ever while the connection stays open. -/
theorem C02_silence_times_out {μ : Type} (obf : Bool) (decode : Bytes → Option μ) (s : Bytes) :
    ∃ (ms : List μ) (c : Close), reader obf decode s = ms.map Event.deliver ++ [Event.closed c] ∧
      readerSilent obf decode s = ms.map Event.deliver ++ [Event.closed .timeout] :=
  readerSilentAux_spec obf decode _ s

/-- **Segmentation**: the model reader is a function of the concatenated stream only. (That the
implementation is, too — `StreamReader.readexactly` — is what the correspondence checks.) -/
theorem C02_segmentation {μ : Type} (obf : Bool) (decode : Bytes → Option μ) (segs₁ segs₂ : List Bytes)
    (h : segs₁.flatten = segs₂.flatten) :
    reader obf decode segs₁.flatten = reader obf decode segs₂.flatten := by rw [h]

/-- **A bad first frame closes that connection only.** Whatever the accepted connection sends first
(nothing, a truncated frame, an undecodable or unexpected frame, an unknown pierce ticket), it is
either established or closed, and in both cases every *other* registered connection stays
registered; the connection itself stays registered iff it was established. -/
theorem C02_accept_isolated (obf : Bool) (decode : Bytes → Option InitKind) (tickets reg : List Nat)
    (c : Nat) (s : Bytes) (hc : c ∉ reg) :
    let out := acceptOutcome obf decode tickets s
    (∀ d, d ≠ c → (d ∈ acceptRegistry reg c out ↔ d ∈ reg)) ∧
    (c ∈ acceptRegistry reg c out ↔ out = .established) := by
  intro out
  cases hout : out with
  | established =>
    simp only [acceptRegistry]
    constructor
    · intro d hd; simp [hd]
    · simp
  | closed why =>
    simp only [acceptRegistry]
    constructor
    · intro d hd; simp [List.mem_filter, hd]
    · simp [List.mem_filter]

/-- an undecodable first frame is never established -/
theorem C02_accept_bad_frame_closed (obf : Bool) (decode : Bytes → Option InitKind) (tickets : List Nat)
    (s f : Bytes) (hf : firstRead obf s = .frame f) (hd : decode f = none) :
    acceptOutcome obf decode tickets s = .closed .readError := by
  simp [acceptOutcome, hf, hd]

example : GoodFrames [([1, 2, 3, 4], [9, 9]), ([5, 6, 7, 8], [])] := by
  intro kb h; simp at h; rcases h with rfl | rfl <;> simp
example : reader false (fun b => if b.length = 6 then some b else none)
      (wire false [([], [9, 9]), ([], [1]), ([], [7, 7])])
    = [.deliver [2, 0, 0, 0, 9, 9], .deliver [2, 0, 0, 0, 7, 7], .closed .eof] := by decide
example : reader false (fun b => some b) [1, 0, 0] = [.closed .readError] := by decide
example : reader false (fun b => some b) [5, 0, 0, 0] = [.closed .eof] := by decide
-- a header announcing 1 MiB followed by 3 bytes and silence: the complete frame before it is delivered, then time-out
example : readerSilent false (fun b => some b) [1, 0, 0, 0, 7, 0, 0, 16, 0, 1, 2, 3]
    = [.deliver [1, 0, 0, 0, 7], .closed .timeout] := by decide

end AioslskVerif.C02
