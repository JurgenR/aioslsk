import AioslskVerif.Proofs.SearchReport
/-!
# C18 — search results reach only live requests; removal and timeouts are exact

Property theorems only (model: `Model/Search.lean`, helpers: `Proofs/Search*.lean`).  The model is of the code
with `fixes/C18-remove-request-cancels-timer.patch`, `fixes/C18-timer-unset-task.patch` and
`fixes/C02-wishlist-interval.patch` applied.

A *history* is any `List Op` run from `init cfg`: searches of the three kinds, `WishlistInterval` messages (which
start wishlist rounds), server closing, `remove_request`, search replies with any ticket, `Timer.cancel` /
`Timer.reschedule` on a registered request, clock jumps of any size (the loop was busy), loop runs (`settle`),
SINGLE loop iterations (`tick`), and — round 4 — the environment of a request's set-up: `gate` (from now on
`send_server_messages` suspends / does not), `sendDone tk ok` (the suspended send of the set-up with ticket `tk`
returns / raises), `cancelCall tk` (the caller suspended in `search*` is cancelled), and — round 6 — the loss of the
server session and the re-login (`sessionDestroyed`, `sessionInitialized`), at any point of a history.  `sleepOps d` is the op list of
`asyncio.sleep(d)`, `stopOps` that of `stop()`.  All interleavings of these at one instant — including "in the loop
iteration after the sleep of a timer was over, before its task was resumed" and "while the request is between its
ticket draw and its registration" — are just different op lists; every theorem below is about all of them.

`NoWrap s` (`initial + draws ≤ 2³²−1`) says that the ticket generator has not wrapped: the property is claimed for
tickets drawn fewer than 2³²−1 draws apart (`C18_ticket_window` is the statement about the generator itself,
`C18_tickets_distinct` the consequence for the registry).
-/
namespace AioslskVerif.C18
open AioslskVerif.Search AioslskVerif.Generated.Search

/-- **Results iff live.** In *any* state a reply with ticket `tk` produces a `SearchResultEvent` iff a request
with that ticket is registered, and the event is for exactly that request and ticket. -/
theorem C18_result_iff_live (s : State) (tk : Nat) :
    ((∃ x, x ∈ (step s (.reply tk)).2) ↔ ∃ r ∈ s.requests, r.ticket = tk) ∧
    ∀ x ∈ (step s (.reply tk)).2, ∃ r ∈ s.requests, r.ticket = tk ∧ x = .result s.now r.rid tk := by
  simp only [step]
  cases hl : lookup s tk with
  | none =>
    refine ⟨⟨?_, ?_⟩, fun x hx => by cases hx⟩
    · intro h; obtain ⟨x, hx⟩ := h; cases hx
    · intro h; obtain ⟨r, hr, h⟩ := h; exact absurd h (lookup_none hl r hr)
  | some r =>
    obtain ⟨hr, htk⟩ := lookup_some hl
    refine ⟨⟨fun _ => ⟨r, hr, htk⟩, fun _ => ⟨_, List.mem_singleton.2 rfl⟩⟩, ?_⟩
    intro x hx
    exact ⟨r, hr, htk, by simpa using hx⟩

/-- …and nothing but a reply for a registered ticket ever produces a `SearchResultEvent`. -/
theorem C18_result_only_for_reply (cfg : Cfg) (ops : List Op) (op : Op)
    (hw : NoWrap (step (run (init cfg) ops).1 op).1) (t rid tk : Nat)
    (hx : Obs.result t rid tk ∈ (step (run (init cfg) ops).1 op).2) :
    op = .reply tk ∧ ∃ r ∈ (run (init cfg) ops).1.requests, r.rid = rid ∧ r.ticket = tk := by
  have hi := reach_inv cfg ops (noWrap_of_step _ _ hw)
  have := step_obs op hi hw _ hx
  exact ⟨this.1, this.2.2⟩

/-- **The generator.** Two tickets drawn fewer than 2³²−1 draws apart differ (constants regenerated from
utils.py: the theorem is re-checked against `ticket_generator` as it is now). -/
theorem C18_ticket_window (i j : Nat) (hij : i < j) (hd : j - i < maxTicket) :
    ticketAt defaultInitial i ≠ ticketAt defaultInitial j := by
  rw [ticketAt_default, ticketAt_default]
  have hm : maxTicket = 4294967295 := rfl
  rw [hm] at hd ⊢
  omega

/-- **Tickets in range**: every ticket ever drawn is in `1 … 2³²−1` (non-zero, fits `uint32`), also after the
generator wrapped; and without a wrap every registered request carries such a ticket. -/
theorem C18_tickets_in_range :
    (∀ n, 1 ≤ ticketAt defaultInitial n ∧ ticketAt defaultInitial n ≤ maxTicket ∧ maxTicket < 2 ^ 32) ∧
    (∀ (cfg : Cfg) (ops : List Op), 1 ≤ cfg.initial → NoWrap (run (init cfg) ops).1 →
      ∀ r ∈ (run (init cfg) ops).1.requests, 1 ≤ r.ticket ∧ r.ticket ≤ maxTicket) := by
  constructor
  · intro n
    rw [ticketAt_default]
    have hm : maxTicket = 4294967295 := rfl
    rw [hm]
    omega
  · intro cfg ops h1 hw r hr
    have := (reach_inv cfg ops hw).inv.req_tk r hr
    unfold NoWrap at hw
    rw [run_cfg] at this hw
    omega

/-- **Distinct tickets.** In every history without a generator wrap the registered requests have pairwise
distinct tickets, and no registration ever replaced a live request (`clobber` is the model's ghost event for
`self.requests[ticket] = request` hitting an existing key). -/
theorem C18_tickets_distinct (cfg : Cfg) (ops : List Op) (hw : NoWrap (run (init cfg) ops).1) :
    (∀ r1 ∈ (run (init cfg) ops).1.requests, ∀ r2 ∈ (run (init cfg) ops).1.requests,
        r1.ticket = r2.ticket → r1 = r2) ∧
    ∀ a b, Obs.clobber a b ∉ (run (init cfg) ops).2 := by
  refine ⟨(reach_inv cfg ops hw).inv.ticket_inj, ?_⟩
  intro a b hx
  exact (reach_obs cfg ops hw _ hx).2 a b rfl

/-- **Superseded timers never fire.** Whenever a timer callback runs (it reports a removal, or would raise) — in a
loop run or in a single loop iteration —, the task that runs it is un-cancelled, is *at that moment* the handle
`Timer._task` of a registered request, and that request is the one removed. `Timer.cancel` clears the handle and `Timer.reschedule` replaces it by a fresh task
(`C18_rearm_supersedes`), so a cancelled or re-armed timer cannot fire for the old deadline. -/
theorem C18_superseded_never_fires (cfg : Cfg) (ops : List Op) (op : Op)
    (hw : NoWrap (step (run (init cfg) ops).1 op).1) (t rid tk dl tid : Nat)
    (hx : Obs.removed t rid tk dl tid ∈ (step (run (init cfg) ops).1 op).2) :
    (op = .settle ∨ op = .tick) ∧
    (∃ task ∈ (run (init cfg) ops).1.tasks, task.id = tid ∧ task.rid = rid ∧ task.cancelled = false) ∧
    ∃ r ∈ (run (init cfg) ops).1.requests, r.rid = rid ∧ r.ticket = tk ∧ r.handle = some tid := by
  have hi := reach_inv cfg ops (noWrap_of_step _ _ hw)
  obtain ⟨h1, _, _, h4, h5⟩ := step_obs op hi hw _ hx
  exact ⟨h1, h4, h5⟩

/-- `reschedule` on a registered request: the old task (if any) is marked cancelled, the handle becomes a task id
that did not exist before, and exactly one new pending task carries it. -/
theorem C18_rearm_supersedes (cfg : Cfg) (ops : List Op) (tk n : Nat) (r : Req)
    (hw : NoWrap (run (init cfg) ops).1)
    (hl : lookup (run (init cfg) ops).1 tk = some r) (hto : r.timeout ≠ none) :
    let s := (run (init cfg) ops).1
    let s' := (step s (.timerReschedule tk n)).1
    (∀ old, r.handle = some old → ∀ t ∈ s'.tasks, t.id = old → t.cancelled = true) ∧
    (∀ t ∈ s.tasks, t.id ≠ s.nextTask) ∧
    (∃ r' ∈ s'.requests, r'.rid = r.rid ∧ r'.ticket = tk ∧ r'.handle = some s.nextTask ∧ r'.timeout = some n) ∧
    (∃ t ∈ s'.tasks, t.id = s.nextTask ∧ t.cancelled = false ∧ t.deadline = none ∧ t.timeout = n) := by
  intro s s'
  have hi : SInv s := reach_inv cfg ops hw
  obtain ⟨hr, htk⟩ := lookup_some hl
  obtain ⟨T, hT⟩ := Option.ne_none_iff_exists'.1 hto
  have hs' : s' = timerStart { (timerCancel s r.rid r.handle) with
      requests := setTimeout (timerCancel s r.rid r.handle).requests r.rid n } r.rid r.ticket n := by
    have hl' : lookup s tk = some r := hl
    show (step s (.timerReschedule tk n)).1 = _
    simp only [step, hl', hT]
  refine ⟨?_, fun t ht => Nat.ne_of_lt (hi.inv.task_id t ht), ?_, ?_⟩
  · intro old hold
    refine cancelTarget_marks hi (op := .timerReschedule tk n) ((timerOf_eq s tk).trans ?_)
    rw [show lookup s tk = some r from hl]
    simp [armed, hT, hold]
  · rw [hs', reschedule_requests]
    exact ⟨_, List.mem_map.2 ⟨r, hr, if_pos rfl⟩, rfl, htk, rfl, rfl⟩
  · rw [hs']
    refine ⟨_, List.mem_append.2 (.inr (List.mem_singleton.2 rfl)), ?_, rfl, rfl, rfl⟩
    cases r.handle <;> rfl

/-- **No error reaches the loop's exception handler**: in every history without a generator wrap no timer task
raises (`loopErr` is `KeyError` in `_timeout_search_request`). -/
theorem C18_no_loop_error (cfg : Cfg) (ops : List Op) (hw : NoWrap (run (init cfg) ops).1) :
    ∀ t rid tk tid, Obs.loopErr t rid tk tid ∉ (run (init cfg) ops).2 := by
  intro t rid tk tid hx
  exact (reach_obs cfg ops hw _ hx).1 t rid tk tid rfl

/-- **A request removed by the user is silent.** After a successful `remove_request(tk)` no later observation
of any continuation — result, timeout removal, error, re-announcement — concerns that request. -/
theorem C18_removed_silent (cfg : Cfg) (ops later : List Op) (tk : Nat) (r : Req)
    (hl : lookup (run (init cfg) ops).1 tk = some r)
    (hw : NoWrap (run (step (run (init cfg) ops).1 (.remove tk)).1 later).1) :
    (step (run (init cfg) ops).1 (.remove tk)).2 = [] ∧
    (∀ q ∈ (step (run (init cfg) ops).1 (.remove tk)).1.requests, q.rid ≠ r.rid ∧ q.ticket ≠ tk) ∧
    ∀ x ∈ (run (step (run (init cfg) ops).1 (.remove tk)).1 later).2, obsRid x ≠ some r.rid := by
  have hw1 : NoWrap (step (run (init cfg) ops).1 (.remove tk)).1 := guard_of_run noWrap_of_step later _ hw
  have hi := reach_inv cfg ops (noWrap_of_step _ _ hw1)
  have hg := gone_after_remove hi hl
  have hi1 := sinv_step (.remove tk) hi hw1
  refine ⟨by simp [step, hl], ?_, gone_run later _ hi1 hw hg⟩
  intro q hq
  refine ⟨hg.2.1 q hq, ?_⟩
  intro hqt
  -- a registered request with ticket `tk` would have the rid of `r`
  have h1 := hi1.inv.req_tk q hq
  have h2 := hi.inv.req_tk r (lookup_some hl).1
  rw [step_cfg] at h1
  have := (lookup_some hl).2
  exact hg.2.1 q hq (by omega)

/-- **Timeout: exactly once, not before, not late, on the dot.**
1. the removals reported in a history are for pairwise different requests (at most once each);
2. a removal is reported only by a loop run / a loop iteration at a time `t` with `deadline ≤ t`, where `deadline` is the one of the
   task that currently is the Timer's handle (`C18_superseded_never_fires`), and the request is then gone for good
   (`Gone`: not registered in the resulting state; by `gone_run` nothing later concerns it);
3. after every loop run, whatever is still pending is un-cancelled, started and due strictly later — no request
   whose timeout has passed is still waiting (from *any* state);
4. while time only passes through `asyncio.sleep` (`sleepOps`) from a state with nothing overdue, every
   removal is reported at exactly its deadline (from *any* such state). -/
theorem C18_timeout_exact_once :
    (∀ (cfg : Cfg) (ops : List Op), NoWrap (run (init cfg) ops).1 →
      ((run (init cfg) ops).2.filterMap removedRid).Nodup) ∧
    (∀ (cfg : Cfg) (ops : List Op) (op : Op), NoWrap (step (run (init cfg) ops).1 op).1 →
      ∀ t rid tk dl tid, Obs.removed t rid tk dl tid ∈ (step (run (init cfg) ops).1 op).2 →
        (op = .settle ∨ op = .tick) ∧ t = (run (init cfg) ops).1.now ∧ dl ≤ t ∧
          Gone rid (step (run (init cfg) ops).1 op).1) ∧
    (∀ s : State, Ahead (step s .settle).1) ∧
    (∀ (s : State) (d : Nat), OnTime s →
      (∀ t rid tk dl tid, Obs.removed t rid tk dl tid ∈ (run s (sleepOps d)).2 → t = dl) ∧
      Ahead (run s (sleepOps d)).1) := by
  refine ⟨removed_once, ?_, settle_ahead, fun s d h => sleep_exact d h⟩
  intro cfg ops op hw t rid tk dl tid hx
  have hi := reach_inv cfg ops (noWrap_of_step _ _ hw)
  have hok := step_obs op hi hw _ hx
  obtain ⟨hop, ht, hdl, _, _⟩ := hok
  exact ⟨hop, ht, by omega, (step_removed_facts op hi hw hx).2.1⟩

/-- `OnTime` is not an empty hypothesis: the initial state has it, every op that is not a clock jump keeps it,
and `sleepOps` re-establishes it after its one-second jumps (part 4 above). -/
theorem C18_onTime_init (cfg : Cfg) : OnTime (init cfg) := by
  intro t ht; cases ht

/-! ### The removal is reported to every listener exactly once

`nstep` (Model/Search.lean) keeps the timer task alive while `EventBus.emit(SearchRequestRemovedEvent)` hands the
event from listener to listener: `NOp.resume rid` lets the listener that currently holds the report for request
`rid` return, every `Op` may happen in between (`NOp.base`), `n` listeners are registered.  A *history* is any
`List NOp` run from `ninit cfg n`. -/

/-- **The task that reports a removal is never cancelled.** In every history no report is aborted (`aborted` =
`CancelledError` inside `emit`: the suspended listener is torn down and the listeners after it are never called):
`remove_request`, `Timer.cancel`, `Timer.reschedule` and `stop()` (`stopOps`) reach a Timer only through the
registry, and the request whose removal is being reported is not in it any more (`del` before `emit`). -/
theorem C18_report_never_aborted (cfg : Cfg) (n : Nat) (ops : List NOp)
    (hw : NoWrap (nrun (ninit cfg n) ops).1.base) :
    (∀ t rid tk i, NObs.aborted t rid tk i ∉ (nrun (ninit cfg n) ops).2) ∧
    ∀ e ∈ (nrun (ninit cfg n) ops).1.reporting, e.cancelled = false := by
  have h := reach_ninv cfg n ops hw
  exact ⟨h.no_abort, fun e he => (h.rep_ok e he).1⟩

/-- `cancelTarget` is exactly what `step` cancels among the pending tasks: the named task is marked cancelled,
and a task that becomes cancelled in a step is the named one. -/
theorem C18_cancel_target_exact (cfg : Cfg) (ops : List Op) (op : Op) (hw : NoWrap (run (init cfg) ops).1) :
    (∀ id, cancelTarget (run (init cfg) ops).1 op = some id →
      (∃ t ∈ (run (init cfg) ops).1.tasks, t.id = id ∧ t.cancelled = false) ∧
      ∀ t ∈ (step (run (init cfg) ops).1 op).1.tasks, t.id = id → t.cancelled = true) ∧
    ∀ t ∈ (step (run (init cfg) ops).1 op).1.tasks, t.cancelled = true →
      (∃ t0 ∈ (run (init cfg) ops).1.tasks, t0.id = t.id ∧ t0.cancelled = true) ∨
        cancelTarget (run (init cfg) ops).1 op = some t.id := by
  have hi := reach_inv cfg ops hw
  exact ⟨fun id hc => ⟨cancelTarget_task hi hc, cancelTarget_marks hi hc⟩, cancelTarget_complete _ op⟩

/-- **At most once, only what happened, in order.** In every history: no listener is told twice of the same removal
(the `(request, listener)` pairs of the `told` observations are pairwise different); a listener that is told exists
(`i < n`), the removal it is told of was reported by a timer (`removed`, so `C18_timeout_exact_once` and
`C18_superseded_never_fires` apply to it), and all listeners registered before it have been told before. -/
theorem C18_removal_told_at_most_once (cfg : Cfg) (n : Nat) (ops : List NOp)
    (hw : NoWrap (nrun (ninit cfg n) ops).1.base) :
    ((nrun (ninit cfg n) ops).2.filterMap toldKey).Nodup ∧
    ∀ t rid tk i, NObs.told t rid tk i ∈ (nrun (ninit cfg n) ops).2 →
      i < n ∧ (∃ t0 dl tid, NObs.base (.removed t0 rid tk dl tid) ∈ (nrun (ninit cfg n) ops).2) ∧
      ∀ j, j < i → ∃ t' tk', NObs.told t' rid tk' j ∈ (nrun (ninit cfg n) ops).2 := by
  have h := reach_ninv cfg n ops hw
  refine ⟨h.told_nodup, ?_⟩
  intro t rid tk i hx
  have hn : (nrun (ninit cfg n) ops).1.listeners = n := nrun_listeners _ _
  exact ⟨by have := (h.told_ok t rid tk i hx).1; omega, h.told_src t rid tk i hx, h.in_order t rid tk i hx⟩

/-- **Nothing is lost.** At every point of every history, for every removal reported so far and every registered
listener: the listener has been told, or the report is still running, un-cancelled, and has not reached that
listener yet. -/
theorem C18_removal_never_lost (cfg : Cfg) (n : Nat) (ops : List NOp)
    (hw : NoWrap (nrun (ninit cfg n) ops).1.base) :
    ∀ t rid tk dl tid, NObs.base (.removed t rid tk dl tid) ∈ (nrun (ninit cfg n) ops).2 → ∀ i, i < n →
      (∃ t' tk', NObs.told t' rid tk' i ∈ (nrun (ninit cfg n) ops).2) ∨
      ∃ e ∈ (nrun (ninit cfg n) ops).1.reporting, e.rid = rid ∧ e.told ≤ i ∧ e.cancelled = false := by
  have h := reach_ninv cfg n ops hw
  intro t rid tk dl tid hx i hi
  have hn : (nrun (ninit cfg n) ops).1.listeners = n := nrun_listeners _ _
  rcases h.complete t rid tk dl tid hx i (by omega) with h1 | ⟨e, he, h1, h2⟩
  · exact .inl h1
  · exact .inr ⟨e, he, h1, h2, (h.rep_ok e he).1⟩

/-- **Exactly once.** Take any history and let every listener that is still suspended return (`drainOps`: the
running reports are resumed to their end, nothing else happens).  Then no report is running any more and every
registered listener has been told of every removal reported in the history exactly once. -/
theorem C18_removal_told_each_listener_exactly_once (cfg : Cfg) (n : Nat) (ops : List NOp)
    (hw : NoWrap (nrun (ninit cfg n) ops).1.base) :
    let all := ops ++ drainOps (nrun (ninit cfg n) ops).1
    (nrun (ninit cfg n) all).1.reporting = [] ∧
    (nrun (ninit cfg n) all).1.base = (nrun (ninit cfg n) ops).1.base ∧
    ∀ t rid tk dl tid, NObs.base (.removed t rid tk dl tid) ∈ (nrun (ninit cfg n) all).2 → ∀ i, i < n →
      ((nrun (ninit cfg n) all).2.filterMap toldKey).count (rid, i) = 1 := by
  intro all
  have h := reach_ninv cfg n ops hw
  have hst : (nrun (ninit cfg n) all).1 = { (nrun (ninit cfg n) ops).1 with reporting := [] } := by
    show (nrun (ninit cfg n) (ops ++ _)).1 = _
    rw [nrun_append]
    exact drain_state h
  have hw' : NoWrap (nrun (ninit cfg n) all).1.base := by rw [hst]; exact hw
  have h' := reach_ninv cfg n all hw'
  refine ⟨by rw [hst], by rw [hst], ?_⟩
  intro t rid tk dl tid hx i hi
  have hn : (nrun (ninit cfg n) all).1.listeners = n := nrun_listeners _ _
  have hmem : (rid, i) ∈ (nrun (ninit cfg n) all).2.filterMap toldKey := by
    rcases h'.complete t rid tk dl tid hx i (by omega) with ⟨t', tk', h1⟩ | ⟨e, he, _⟩
    · exact List.mem_filterMap.2 ⟨_, h1, rfl⟩
    · rw [hst] at he; cases he
  have h1 := List.nodup_iff_count.1 h'.told_nodup (rid, i)
  have h2 := List.count_pos_iff.2 hmem
  omega

/-- One step of a running, un-cancelled report in *any* state: the next listener is called, or — after the last
one — `emit` returns and the report is over. -/
theorem C18_report_progress (s : NState) (e : Emission)
    (hf : s.reporting.find? (fun x => decide (x.rid = e.rid)) = some e) (hc : e.cancelled = false) :
    (e.told < s.listeners → (nstep s (.resume e.rid)).2 = [.told s.base.now e.rid e.ticket e.told]) ∧
    (¬ e.told < s.listeners → (nstep s (.resume e.rid)).2 = [.finished s.base.now e.rid e.ticket] ∧
      ∀ x ∈ (nstep s (.resume e.rid)).1.reporting, x.rid ≠ e.rid) := by
  constructor
  · intro hlt
    simp only [nstep, hf, hc]
    simp [hlt]
  · intro hge
    simp only [nstep, hf, hc]
    simp only [Bool.false_eq_true, if_false, hge]
    refine ⟨trivial, ?_⟩
    intro x hx
    simpa using (List.mem_filter.1 hx).2

/-- **Registered only together with the announcement.** In every history every registered request has been
announced by a `SearchRequestSentEvent` — so a request is never visible in `SearchManager.requests` (and can never
receive a result, `C18_result_iff_live`) while, or although, nobody was told about it. -/
theorem C18_registered_announced (cfg : Cfg) (ops : List Op) (hw : NoWrap (run (init cfg) ops).1) :
    ∀ r ∈ (run (init cfg) ops).1.requests, ∃ t, Obs.sent t r.rid r.ticket ∈ (run (init cfg) ops).2 := by
  have := run_ind (P := fun s tr => SInv s ∧ ∀ r ∈ s.requests, ∃ t, Obs.sent t r.rid r.ticket ∈ tr) (G := NoWrap)
    noWrap_of_step ?step ops (init cfg) [] ⟨sinv_init cfg, by simp [init]⟩ hw
  · simpa using this.2
  case step =>
    intro s tr op ⟨hi, ht⟩ hw
    have hi' := sinv_step op hi hw
    refine ⟨hi', ?_⟩
    intro r' hr'
    have k' := hi'.inv.req_tk r' hr'
    rw [step_cfg] at k'
    rcases (step_effect s op).told r' hr' with ⟨r, hr, he⟩ | ⟨t, tk, hx⟩
    · obtain ⟨t, hx⟩ := ht r hr
      have k := hi.inv.req_tk r hr
      refine ⟨t, List.mem_append.2 (.inl ?_)⟩
      rw [← he, show r'.ticket = r.ticket by omega]; exact hx
    · -- the announcement carries the ticket of the request
      have := (step_obs op hi hw _ hx).2.1
      exact ⟨t, List.mem_append.2 (.inr (by rw [k'.1, ← this]; exact hx))⟩

/-- … hence results and timeout removals are only ever reported for requests that were announced before. -/
theorem C18_reported_only_if_announced (cfg : Cfg) (ops : List Op) (op : Op)
    (hw : NoWrap (step (run (init cfg) ops).1 op).1) :
    (∀ t rid tk, Obs.result t rid tk ∈ (step (run (init cfg) ops).1 op).2 →
      ∃ t0, Obs.sent t0 rid tk ∈ (run (init cfg) ops).2) ∧
    (∀ t rid tk dl tid, Obs.removed t rid tk dl tid ∈ (step (run (init cfg) ops).1 op).2 →
      ∃ t0, Obs.sent t0 rid tk ∈ (run (init cfg) ops).2) := by
  have hw0 := noWrap_of_step _ _ hw
  have hi := reach_inv cfg ops hw0
  have hann := C18_registered_announced cfg ops hw0
  constructor
  · intro t rid tk hx
    obtain ⟨_, _, r, hr, h1, h2⟩ := step_obs op hi hw _ hx
    obtain ⟨t0, h0⟩ := hann r hr
    exact ⟨t0, by rw [← h1, ← h2]; exact h0⟩
  · intro t rid tk dl tid hx
    obtain ⟨_, _, _, _, r, hr, h1, h2, _⟩ := step_obs op hi hw _ hx
    obtain ⟨t0, h0⟩ := hann r hr
    exact ⟨t0, by rw [← h1, ← h2]; exact h0⟩

/-- **A request that is being set up is not registered** (whatever its ticket is used for meanwhile: a reply with it
finds no request, `remove_request` raises `KeyError`), and its ticket is nobody else's. -/
theorem C18_setup_not_registered (cfg : Cfg) (ops : List Op) (hw : NoWrap (run (init cfg) ops).1) :
    (∀ p ∈ (run (init cfg) ops).1.pending, ∀ r ∈ (run (init cfg) ops).1.requests, r.rid ≠ p.rid ∧ r.ticket ≠ p.ticket) ∧
    ∀ p ∈ (run (init cfg) ops).1.pending, ∀ q ∈ (run (init cfg) ops).1.pending, p.ticket = q.ticket → p = q := by
  have hi := reach_inv cfg ops hw
  constructor
  · intro p hp r hr
    have h1 := hi.pinv.pend_fresh p hp r hr
    have h2 := hi.pinv.pend_tk p hp
    have h3 := hi.inv.req_tk r hr
    exact ⟨h1, by omega⟩
  · intro p hp q hq he
    have h2 := hi.pinv.pend_tk p hp
    have h3 := hi.pinv.pend_tk q hq
    exact pairwise_inj hi.pinv.pend_nodup p hp q hq (by omega)

/-- **A set-up that fails, or whose owner is cancelled, leaves nothing behind.** If the send of a set-up raised, or
its caller was cancelled while suspended in it (`outcome = some false`), then after the owner's next step — one
loop iteration, or a loop run — the request object does not exist anywhere: not registered, not pending, and no
observation of any continuation (sent, result, removal, error) ever concerns it. -/
theorem C18_failed_setup_leaves_nothing (cfg : Cfg) (ops later : List Op) (op : Op) (hop : op = .tick ∨ op = .settle)
    (p : Setup) (hp : p ∈ (run (init cfg) ops).1.pending) (ho : p.outcome = some false)
    (hw : NoWrap (run (step (run (init cfg) ops).1 op).1 later).1) :
    Gone p.rid (step (run (init cfg) ops).1 op).1 ∧
    ∀ x ∈ (run (step (run (init cfg) ops).1 op).1 later).2, obsRid x ≠ some p.rid := by
  have hw1 : NoWrap (step (run (init cfg) ops).1 op).1 := guard_of_run noWrap_of_step later _ hw
  have hi := reach_inv cfg ops (noWrap_of_step _ _ hw1)
  have hg : Gone p.rid (step (run (init cfg) ops).1 op).1 := by
    rcases hop with rfl | rfl
    · exact tick_failed hi hw1 hp ho
    · exact settle_failed hi hw1 hp ho
  exact ⟨hg, gone_run later _ (sinv_step op hi hw1) hw hg⟩

/-- `Op.cancelCall tk` (the caller suspended in `search*` is cancelled) gives the set-up that outcome, whether or not
the network has answered meanwhile. -/
theorem C18_cancelled_call_fails (s : State) (tk : Nat) (p : Setup)
    (hf : s.pending.find? (fun p => p.ticket = tk && p.kind != .wishlist) = some p) :
    ∃ p' ∈ (step s (.cancelCall tk)).1.pending, p'.rid = p.rid ∧ p'.outcome = some false := by
  have hpm : p ∈ s.pending := List.mem_of_find?_eq_some hf
  simp only [step, hf, setOutcome]
  exact ⟨{ p with outcome := some false }, List.mem_map.2 ⟨p, hpm, by simp⟩, rfl, rfl⟩

/-- **Cancelling the wishlist task in the middle of a round leaves nothing behind** (a `WishlistInterval` message,
the server connection closing, `stop()` — `stopOps` ends with `serverClosing`): the request that was being set up
is gone at once and for good. -/
theorem C18_cancelled_round_leaves_nothing (cfg : Cfg) (ops later : List Op) (op : Op)
    (hop : (∃ n, op = .wlInterval n) ∨ op = .serverClosing)
    (p : Setup) (hp : p ∈ (run (init cfg) ops).1.pending) (hk : p.kind = .wishlist)
    (hw : NoWrap (run (step (run (init cfg) ops).1 op).1 later).1) :
    Gone p.rid (step (run (init cfg) ops).1 op).1 ∧
    ∀ x ∈ (run (step (run (init cfg) ops).1 op).1 later).2, obsRid x ≠ some p.rid := by
  have hw1 : NoWrap (step (run (init cfg) ops).1 op).1 := guard_of_run noWrap_of_step later _ hw
  have hi := reach_inv cfg ops (noWrap_of_step _ _ hw1)
  have hc := cancelWishlist_gone hi hp hk
  have hg : Gone p.rid (step (run (init cfg) ops).1 op).1 := by
    rcases hop with ⟨n, rfl⟩ | rfl
    · exact hc
    · exact hc
  exact ⟨hg, gone_run later _ (sinv_step op hi hw1) hw hg⟩

/-- **A timer task runs its callback only in the iteration after its sleep was over, and only if nobody cancelled it
in between.** One loop iteration (`tick`) fires exactly the pending tasks that are woken and un-cancelled; a task is
woken only when its deadline has passed (`PInv.woken_due`), and `Timer.cancel` in any phase — created, sleeping,
woken — makes it end without the callback (`C18_superseded_never_fires`, `C18_cancel_target_exact`). -/
theorem C18_tick_fires_woken_only (cfg : Cfg) (ops : List Op) (hw : NoWrap (run (init cfg) ops).1)
    (t rid tk dl tid : Nat) (hx : Obs.removed t rid tk dl tid ∈ (tick (run (init cfg) ops).1).2) :
    ∃ task ∈ (run (init cfg) ops).1.tasks, task.id = tid ∧ task.rid = rid ∧ task.cancelled = false ∧
      task.woken = true ∧ ∃ d, task.deadline = some d ∧ d ≤ (run (init cfg) ops).1.now := by
  have hi := reach_inv cfg ops hw
  obtain ⟨t0, ht0, hf, _, hid, hrid⟩ := removed_mem_tick _ hx
  exact ⟨t0, ht0, hid, hrid, firesNow_cancelled hf, firesNow_woken hf, hi.pinv.woken_due t0 ht0 (firesNow_woken hf)⟩

/-- **A registered request has a Timer exactly when a timeout is in force for it** — whichever way it was set up
(atomically, or through a suspended send that returned later): `request_timeout > 0` for searches, room and user
searches; an own `wishlist_request_timeout > 0` for wishlist requests (with `wishlist_request_timeout < 0` the
server's interval is the timeout: `Search.wishlistTimeout`).  `Op.search .wishlist` is excluded: it is not an API call,
wishlist requests are made by the wishlist job only. -/
theorem C18_timer_iff_timeout_in_force (cfg : Cfg) (ops : List Op) (hw : NoWrap (run (init cfg) ops).1)
    (hs : ∀ op ∈ ops, op ≠ .search .wishlist) :
    ∀ r ∈ (run (init cfg) ops).1.requests,
      (r.kind ≠ .wishlist → (r.timeout ≠ none ↔ 0 < cfg.requestTimeout)) ∧
      (r.kind = .wishlist → 0 < cfg.wishlistTimeout → r.timeout ≠ none) := by
  have h := allGood_run false ops (init cfg) (sinv_init cfg) (by intro r hr; simp [init] at hr) hw
    (fun hb => by cases hb) hs
  intro r hr
  have := h r hr
  rw [run_cfg] at this
  exact ⟨this.1, this.2.1⟩

/-- **… and that Timer is armed**, unless the user himself cancelled it (`Timer.cancel` through the registry;
`stop()` is a list of those): in every history without such a call, every registered request that has a Timer has
a pending, un-cancelled timer task as its handle — no request is ever left registered with a timeout in force and
nothing that will remove it (with `C18_registered_announced`: nor without having been announced). -/
theorem C18_armed_unless_cancelled (cfg : Cfg) (ops : List Op) (hw : NoWrap (run (init cfg) ops).1)
    (hs : ∀ op ∈ ops, op ≠ .search .wishlist) (hnc : ∀ op ∈ ops, ∀ tk, op ≠ .timerCancel tk) :
    ∀ r ∈ (run (init cfg) ops).1.requests, r.timeout ≠ none →
      ∃ t ∈ (run (init cfg) ops).1.tasks, r.handle = some t.id ∧ t.rid = r.rid ∧ t.cancelled = false := by
  have h := allGood_run true ops (init cfg) (sinv_init cfg) (by intro r hr; simp [init] at hr) hw
    (fun _ => hnc) hs
  have hi := reach_inv cfg ops hw
  intro r hr hto
  have hne := (h r hr).2.2 rfl hto
  obtain ⟨id, hid⟩ := Option.ne_none_iff_exists'.1 hne
  obtain ⟨t, ht, k1, k2, k3⟩ := hi.inv.handle_task r hr id hid
  exact ⟨t, ht, by rw [hid, k1], k2, k3⟩

/-! `Op.sessionDestroyed` / `Op.sessionInitialized` are ops of every history above, so all theorems of this file — in
particular `C18_tickets_distinct` — hold across any number of re-logins, with requests, timers and set-ups that live
through them. -/

/-- **A session change resets nothing of the search state.**  `_on_session_destroyed` / `_on_session_initialized`
(manager.py:431-435) report nothing and leave the ticket counter, the draw count, the registry, the timer tasks, the
set-ups in progress and the wishlist state exactly as they were; only `_session` changes. -/
theorem C18_session_change_resets_nothing (s : State) (op : Op)
    (hop : op = .sessionDestroyed ∨ op = .sessionInitialized) :
    (step s op).2 = [] ∧ (step s op).1.gen = s.gen ∧ (step s op).1.draws = s.draws ∧
    (step s op).1.requests = s.requests ∧ (step s op).1.tasks = s.tasks ∧ (step s op).1.pending = s.pending ∧
    (step s op).1.wlInterval = s.wlInterval ∧ (step s op).1.wlNext = s.wlNext ∧ (step s op).1.now = s.now ∧
    (step s op).1.session = decide (op = .sessionInitialized) := by
  rcases hop with rfl | rfl <;> exact ⟨rfl, rfl, rfl, rfl, rfl, rfl, rfl, rfl, rfl, rfl⟩

/-- **The next ticket is fresh — whatever happened before, re-logins included.**  After any history (with any number
of session losses and logins at any point) the ticket the generator hands out next is held neither by a registered
request nor by a request that is being set up, as long as that draw does not wrap the generator. -/
theorem C18_next_ticket_fresh (cfg : Cfg) (ops : List Op)
    (hw : (run (init cfg) ops).1.cfg.initial + (run (init cfg) ops).1.draws + 1 ≤ maxTicket) :
    (∀ r ∈ (run (init cfg) ops).1.requests,
        r.ticket ≠ nextTicket (run (init cfg) ops).1.cfg.initial (run (init cfg) ops).1.gen) ∧
    (∀ p ∈ (run (init cfg) ops).1.pending,
        p.ticket ≠ nextTicket (run (init cfg) ops).1.cfg.initial (run (init cfg) ops).1.gen) := by
  have hnw : NoWrap (run (init cfg) ops).1 := by unfold NoWrap; omega
  have hi := reach_inv cfg ops hnw
  rw [hi.inv.gen_eq, nextTicket_nowrap _ _ hw]
  refine ⟨fun r hr => ?_, fun p hp => ?_⟩
  · have := hi.inv.req_tk r hr
    omega
  · have := hi.pinv.pend_tk p hp
    omega

/-- **Requests that outlive their session keep their ticket to themselves.**  `before` is any history of the first
session, `mid` whatever happens while logged out, `later` the next session (each may contain further session changes):
the requests registered at the end — survivors of the first session and new ones alike — have pairwise distinct
tickets, and no registration of the whole history replaced a live request. -/
theorem C18_relogin_tickets_distinct (cfg : Cfg) (before mid later : List Op)
    (hw : NoWrap (run (init cfg) (before ++ .sessionDestroyed :: (mid ++ .sessionInitialized :: later))).1) :
    (∀ r1 ∈ (run (init cfg) (before ++ .sessionDestroyed :: (mid ++ .sessionInitialized :: later))).1.requests,
     ∀ r2 ∈ (run (init cfg) (before ++ .sessionDestroyed :: (mid ++ .sessionInitialized :: later))).1.requests,
        r1.ticket = r2.ticket → r1 = r2) ∧
    ∀ a b, Obs.clobber a b ∉ (run (init cfg) (before ++ .sessionDestroyed :: (mid ++ .sessionInitialized :: later))).2 :=
  C18_tickets_distinct cfg _ hw

/-! ### Non-vacuity: the hypotheses are met by non-trivial reachable states -/

def cfg0 : Cfg := { requestTimeout := 5, wishlistTimeout := -1, storeResults := true, initial := 1, items := 2 }

/-- a history with two searches, a wishlist round, a re-arm, a manual removal and a timeout -/
def demo : List Op :=
  [.search .network, .search .room, .wlInterval 3, .settle, .timerReschedule 2 1, .settle, .remove 3, .reply 3,
   .reply 4] ++ sleepOps 3

example : NoWrap (run (init cfg0) demo).1 := by unfold NoWrap; decide
example : (run (init cfg0) demo).2 =
    [.sent 0 1 2, .sent 0 2 3, .sent 0 3 4, .sent 0 4 5, .result 0 3 4, .removed 1 1 2 1 4, .removed 3 3 4 3 2,
     .removed 3 4 5 3 3, .sent 3 5 6, .sent 3 6 7] := by decide
example : (run (init cfg0) demo).1.requests.map (·.ticket) = [6, 7] := by decide
example : lookup (run (init cfg0) [.search .network]).1 2 ≠ none := by decide
/-- a state with a pending, started, un-cancelled timer task that is `OnTime` -/
example : OnTime (step (run (init cfg0) [.search .network]).1 .settle).1 := by
  intro t ht _ d hd
  obtain ⟨_, d', h1, h2⟩ := settle_ahead _ t ht
  rw [h1] at hd; cases hd; exact Nat.le_of_lt h2
example : (step (run (init cfg0) [.search .network]).1 .settle).1.tasks =
    [{ id := 0, rid := 1, ticket := 2, timeout := 5, deadline := some 5, cancelled := false, woken := false }] := by
  decide

/-- a history of the layered model: two searches time out with three listeners registered; the first report is
resumed once, the user tries to remove both requests again (by now unknown: `KeyError`), searches again, then all
listeners return -/
def ndemo : List NOp :=
  [.base (.search .network), .base (.search .user)] ++ (sleepOps 5).map .base ++
  [.resume 1, .base (.remove 2), .base (.remove 3), .base (.search .room), .base .settle]

example : NoWrap (nrun (ninit cfg0 3) ndemo).1.base := by unfold NoWrap; decide
example : (nrun (ninit cfg0 3) ndemo).1.reporting =
    [{ rid := 1, ticket := 2, tid := 0, told := 2, cancelled := false },
     { rid := 2, ticket := 3, tid := 1, told := 1, cancelled := false }] := by decide
example : (nrun (ninit cfg0 3) (ndemo ++ drainOps (nrun (ninit cfg0 3) ndemo).1)).2.filterMap toldKey =
    [(1, 0), (2, 0), (1, 1), (1, 2), (2, 1), (2, 2)] := by decide
/-- `stop()` with a timer pending: a derived op list over the same alphabet (so every theorem above covers it) -/
example : stopOps (run (init cfg0) [.search .network, .settle]).1 = [.timerCancel 2, .serverClosing] := by decide
example : (run (init cfg0) ([.search .network, .settle] ++ stopOps (run (init cfg0) [.search .network, .settle]).1 ++
    sleepOps 9)).2 = [.sent 0 1 2] := by decide

/-- loop iterations around an expiry: the timer is re-armed in the iteration after its sleep was over (the task is
woken, not yet resumed) — no removal for the old deadline, one removal at the new one -/
def idemo : List Op :=
  [.search .network, .tick, .jump 5, .tick, .timerReschedule 2 3, .tick, .tick, .reply 2] ++ sleepOps 3

example : (run (init cfg0) [.search .network, .tick, .jump 5, .tick]).1.tasks =
    [{ id := 0, rid := 1, ticket := 2, timeout := 5, deadline := some 5, cancelled := false, woken := true }] := by decide
example : (run (init cfg0) idemo).2 = [.sent 0 1 2, .result 5 1 2, .removed 8 1 2 8 1] := by decide
/-- … and without the re-arm the callback runs in the next iteration -/
example : (run (init cfg0) [.search .network, .tick, .jump 5, .tick, .tick]).2 = [.sent 0 1 2, .removed 5 1 2 5 0] := by
  decide

/-- set-ups in progress: a search and a wishlist round suspended in their sends; the search is cancelled, the round's
first item goes out and the second one fails — only ticket 3 is ever registered, announced, and removed -/
def sdemo : List Op :=
  [.gate true, .search .user, .wlInterval 4, .tick, .cancelCall 2, .sendDone 3 true, .tick, .reply 2, .reply 3,
   .sendDone 4 false, .tick, .reply 4] ++ sleepOps 4

example : (run (init cfg0) [.gate true, .search .user, .wlInterval 4, .tick]).1.pending =
    [{ rid := 1, ticket := 2, kind := .user, outcome := none },
     { rid := 2, ticket := 3, kind := .wishlist, outcome := none }] := by decide
example : (run (init cfg0) sdemo).2 = [.sent 0 2 3, .result 0 2 3, .removed 4 2 3 4 0] := by decide
example : (run (init cfg0) sdemo).1.requests = [] ∧ (run (init cfg0) sdemo).1.pending = [] := by decide
example : NoWrap (run (init cfg0) sdemo).1 := by unfold NoWrap; decide

/-- round 6: a request without a timeout and one with a long one live through a session loss and a re-login; the
searches of the next session get the NEXT tickets; replies still find the survivors -/
def rdemo : List Op :=
  [.search .network, .wlInterval 9, .settle, .serverClosing, .sessionDestroyed, .jump 2, .settle, .sessionInitialized,
   .wlInterval 9, .search .user, .settle, .reply 2, .reply 5]

example : NoWrap (run (init cfg0) rdemo).1 := by unfold NoWrap; decide
example : (run (init cfg0) rdemo).1.requests.map (·.ticket) = [2, 3, 4, 5, 6, 7] := by decide
example : (run (init cfg0) rdemo).1.session = true ∧
    (run (init cfg0) [.search .network, .sessionInitialized, .sessionDestroyed]).1.session = false := by decide
example : (run (init cfg0) rdemo).2.filter (fun o => match o with | .result _ _ _ => true | _ => false) =
    [.result 2 1 2, .result 2 4 5] := by decide

end AioslskVerif.C18
