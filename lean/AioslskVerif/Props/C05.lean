import AioslskVerif.Proofs.Sched
/-!
# C05 — active uploads never exceed the slot limit or one per user; priority holds

`runFrom s ops` is the scheduler after any list of operations: any arrival order, any timing of the cycles relative
to the other events.  The decision of a cycle taken in state `s` is `s.track.select` (`manage_user_tracking`, then
`uploads[:free_upload_slots]` of the prioritised `_get_queued_transfers()`); `s.users u` is what the scheduler reads
about `u` at that instant.  The decision is recorded by a later step, `record k`; in between the upload is
`inflight`: it holds a slot (`Xfer.held`) that the scheduler's own count (`procUploads`) does not show.  The schedule
theorems assume `Timely`: no cycle is served while an upload is `inflight`.  That is a fact about the running client
(a created task takes its first step in the next loop iteration, the job sleeps between two cycles), the harness checks
it on every real cycle, and without it the theorems are false: `C05_untimely_cycle_breaks_slot_limit`,
`C05_untimely_cycle_breaks_one_per_user`.
-/
namespace AioslskVerif.C05
open AioslskVerif.Sched List

/-- Generated obligation: the weights read from `_prioritize_uploads` make the additive rank
lexicographic. -/
theorem C05_weights_lexicographic :
    W.privileged > W.friend + W.online ∧ W.friend > W.online ∧ W.online > 0 := by decide +kernel

/-- Generated obligation: exactly ONLINE and AWAY earn the status weight (OFFLINE is excluded
earlier, UNKNOWN ranks lowest). -/
theorem C05_online_earners (st : UStatus) : earnsOnline st = true ↔ (st = .online ∨ st = .away) := by
  cases st <;> decide +kernel

/-- the class order the property states, lexicographic on (privileged, friend, online/away) -/
def classLt (i j : UserInfo) : Prop :=
  (i.privileged = false ∧ j.privileged = true) ∨
  (i.privileged = j.privileged ∧
    ((i.friend = false ∧ j.friend = true) ∨
     (i.friend = j.friend ∧ earnsOnline i.status = false ∧ earnsOnline j.status = true)))

/-- For any weights with `privileged > friend + online`, `friend > online > 0` the numeric rank
orders users exactly as the class order does. -/
theorem C05_rank_lexicographic (w : Weights) (hw : w.privileged > w.friend + w.online ∧ w.friend > w.online ∧ w.online > 0)
    (i j : UserInfo) : rankW w i < rankW w j ↔ classLt i j := by
  obtain ⟨h1, h2, h3⟩ := hw
  have oi := optw_le w.online (earnsOnline i.status)
  have oj := optw_le w.online (earnsOnline j.status)
  have fi := optw_le w.friend i.friend
  have fj := optw_le w.friend j.friend
  unfold rankW classLt
  -- compare the privileged weights first, then the friend weights, then the status weights
  rw [lex_add (W := w.privileged) (by omega) (by omega) (optw_cases _ _) (optw_cases _ _),
    lex_add (W := w.friend) (by omega) (by omega) (optw_cases _ _) (optw_cases _ _),
    optw_lt (by omega), optw_eq (by omega), optw_lt (by omega), optw_eq (by omega), optw_lt h3]

theorem C05_rank_is_class_order (i j : UserInfo) : rank i < rank j ↔ classLt i j :=
  C05_rank_lexicographic W C05_weights_lexicographic i j

/-- A cycle starts at most as many uploads as there are free slots. -/
theorem C05_select_le_free (s : Sched) : s.select.length ≤ s.slots - s.procUploads :=
  select_length_le s

/-- The uploads a cycle starts belong to pairwise different users. -/
theorem C05_select_distinct_users (s : Sched) : (s.select.map (·.user)).Nodup :=
  select_nodup_users s

/-- A started upload was a QUEUED upload of the transfer list, its user is not offline and has no
upload that is initialising or uploading. -/
theorem C05_select_no_busy_no_offline (s : Sched) (t : Xfer) (h : t ∈ s.select) :
    t ∈ s.xs ∧ t.dir = .upload ∧ t.st = .queued ∧ (s.users t.user).status ≠ .offline ∧
      ∀ x ∈ s.xs, x.procUpload = true → x.user ≠ t.user :=
  select_spec h

/-- Whatever is started ranks at least as high as every eligible upload that is left waiting. -/
theorem C05_priority (s : Sched) (t t' : Xfer) (ht : t ∈ s.select) (ht' : t' ∈ s.eligible) (hn : t' ∉ s.select) :
    s.rankOf t' ≤ s.rankOf t := by
  have hs : s.eligible.Pairwise (fun a b => s.rankOf b ≤ s.rankOf a) := prioritize_sorted s s.candidates
  have hsplit : s.eligible = s.select ++ s.eligible.drop s.freeSlots := (take_append_drop _ _).symm
  rw [hsplit] at hs ht'
  exact (pairwise_append.mp hs).2.2 t ht t' ((mem_append.mp ht').resolve_left hn)

/-- Every user that could be served is represented in the eligible list: a QUEUED upload of a user
who is not offline and has no active upload has an eligible upload of the same user. -/
theorem C05_eligible_complete (s : Sched) (x : Xfer) (hx : x ∈ s.xs) (hu : x.dir = .upload) (hq : x.st = .queued)
    (hoff : (s.users x.user).status ≠ .offline) (hb : ∀ y ∈ s.xs, y.procUpload = true → y.user ≠ x.user) :
    ∃ y ∈ s.eligible, y.user = x.user := by
  have hbusy : x.user ∉ s.busyUsers := fun hc =>
    have ⟨z, hz, hzu⟩ := mem_map.mp hc
    hb z (mem_filter.mp hz).1 (mem_filter.mp hz).2 hzu
  obtain ⟨y, hy, hyu⟩ := eligLoop_complete hu hq hoff hbusy hx not_mem_nil
  exact ⟨y, (eligible_perm s).mem_iff.mpr hy, hyu⟩

/-- User-level priority: if a cycle starts an upload of user `u` and leaves an eligible user `v`
(queued upload, not offline, nothing active, none of `v`'s uploads started) waiting, then `v` is not
of a higher class than `u`. -/
theorem C05_priority_users (s : Sched) (t x : Xfer) (ht : t ∈ s.select) (hx : x ∈ s.xs) (hu : x.dir = .upload)
    (hq : x.st = .queued) (hoff : (s.users x.user).status ≠ .offline)
    (hb : ∀ y ∈ s.xs, y.procUpload = true → y.user ≠ x.user) (hw : ∀ y ∈ s.select, y.user ≠ x.user) :
    ¬ classLt (s.users t.user) (s.users x.user) := by
  obtain ⟨y, hy, hyu⟩ := C05_eligible_complete s x hx hu hq hoff hb
  have : rank (s.users y.user) ≤ rank (s.users t.user) := C05_priority s t y ht hy (fun hc => hw y hc hyu)
  rw [← C05_rank_is_class_order, ← hyu]
  exact Nat.not_lt.mpr this

/-- What a cycle starts: the selected uploads that have no running task. When nothing is between decision and
record (every timely cycle) and no selected upload has a lingering task, that is the whole selection, so the
theorems above speak about exactly the uploads whose tasks the cycle creates.  (A selected upload with a
lingering task is passed over and watched: `C05_work_conserving`.) -/
theorem C05_cycle_starts_the_selection (s : Sched) (hn : s.noInflight = true)
    (hl : ∀ x ∈ s.select, x.lingering = false) : s.started = s.select :=
  filter_eq_self.mpr fun x hx => by rw [noInflight_spec hn (select_spec hx).1, hl x hx]; rfl

/-- the selected uploads a cycle passes over: an earlier task of theirs is still running
(`_is_running(upload._transfer_task)`, manager.py:580-590) -/
def passedOver (s : Sched) : List Xfer := s.select.filter (fun x => x.inflight || x.lingering)

/-- A passed-over upload uses up its slot: the tasks a cycle creates and the uploads it passes over are, together,
`uploads[:free_upload_slots]` — the slice is taken BEFORE the uploads with a running task are skipped, the loop
does not go on to the next candidate in line. -/
theorem C05_passed_over_uses_its_slot (s : Sched) :
    s.started.length + (passedOver s).length = s.select.length ∧
      s.started.length + (passedOver s).length ≤ s.slots - s.procUploads := by
  have h1 : s.started.length + (passedOver s).length = s.select.length :=
    (Nat.add_comm ..).trans (length_filter_add_filter_not (fun x : Xfer => x.inflight || x.lingering) _
      (fun x => (Bool.not_or x.inflight x.lingering).symm) s.select)
  exact ⟨h1, h1 ▸ select_length_le s⟩

/-- No slot goes past a passed-over upload: if a cycle creates a task for `t` and an eligible upload `t'` ranks
strictly higher, then `t'` is in the slice too — it got a task as well or it was passed over, and then it is marked
(`inflight`: its task will record the decision; `watched`: the cycle asked to be run again when the lingering task
ends) in the state the cycle leaves behind.  Never is a task created for a lower-ranking upload INSTEAD. -/
theorem C05_no_slot_goes_past_a_passed_over_upload (s : Sched) (t t' : Xfer) (ht : t ∈ s.started)
    (ht' : t' ∈ s.eligible) (hr : s.rankOf t < s.rankOf t') :
    t' ∈ s.select ∧ markSel s.select t' ∈ s.start.xs ∧
      ((markSel s.select t').inflight = true ∨ (markSel s.select t').watched = true) := by
  have hsel : t' ∈ s.select :=
    Decidable.byContradiction fun hn => Nat.not_le.mpr hr (C05_priority s t t' (mem_filter.mp ht).1 ht' hn)
  exact ⟨hsel, mem_map.mpr ⟨t', (select_spec hsel).1, rfl⟩, markSel_marks hsel⟩

/-- The same at the level of the property's classes: a user of a strictly higher class (privileged > friend >
online/away > unknown) whose upload is eligible never loses the slot to the user a task is created for. -/
theorem C05_higher_class_keeps_its_slot (s : Sched) (t t' : Xfer) (ht : t ∈ s.started) (ht' : t' ∈ s.eligible)
    (hc : classLt (s.users t.user) (s.users t'.user)) :
    t' ∈ s.started ∨
      (t' ∈ passedOver s ∧ ((markSel s.select t').inflight = true ∨ (markSel s.select t').watched = true)) := by
  have hr : s.rankOf t < s.rankOf t' := (C05_rank_is_class_order _ _).mpr hc
  obtain ⟨hsel, _, hm⟩ := C05_no_slot_goes_past_a_passed_over_upload s t t' ht ht' hr
  cases hp : t'.inflight || t'.lingering
  · exact .inl (mem_filter.mpr ⟨hsel, by rw [← Bool.not_or, hp]; rfl⟩)
  · exact .inr ⟨mem_filter.mpr ⟨hsel, hp⟩, hm⟩

/-- In every state a timely schedule reaches no user holds two slots: no two uploads of one user that are
initialising / uploading or chosen by a cycle (task created, decision not yet recorded). -/
theorem C05_one_slot_per_user (n : Nat) (ops : List Op) (ht : Timely { slots := n } ops) (a b : Xfer)
    (ha : a ∈ (runFrom { slots := n } ops).xs) (hb : b ∈ (runFrom { slots := n } ops).xs) (hne : a ≠ b)
    (pa : a.held = true) (pb : b.held = true) : a.user ≠ b.user :=
  forall_of_pairwise (fun _ _ h pb pa e => h pa pb e.symm) (inv_runFrom (inv_init n) ops ht).one ha hb hne pa pb

/-- In every state a timely schedule reaches no user has two uploads that are initialising / uploading. -/
theorem C05_one_per_user (n : Nat) (ops : List Op) (ht : Timely { slots := n } ops) (a b : Xfer)
    (ha : a ∈ (runFrom { slots := n } ops).xs) (hb : b ∈ (runFrom { slots := n } ops).xs) (hne : a ≠ b)
    (pa : a.procUpload = true) (pb : b.procUpload = true) : a.user ≠ b.user :=
  C05_one_slot_per_user n ops ht a b ha hb hne (held_of_proc pa) (held_of_proc pb)

/-- Only a QUEUED upload is ever between decision and record, and its record is enabled: the first step of the
created task can always be taken (nothing has to be waited for). -/
theorem C05_inflight_is_queued_upload (n : Nat) (ops : List Op) (ht : Timely { slots := n } ops) (x : Xfer)
    (hx : x ∈ (runFrom { slots := n } ops).xs) (hi : x.inflight = true) :
    x.dir = .upload ∧ x.st = .queued ∧ (runFrom { slots := n } ops).accepts (.record x.id) = true := by
  have hinv : Inv (runFrom { slots := n } ops) := inv_runFrom (inv_init n) ops ht
  have hq := hinv.infl x hx hi
  refine ⟨hq.1, hq.2, ?_⟩
  simp [Sched.accepts, Op.xfer?, get?_of_mem hinv hx, target, hq.1, hq.2, hi]

/-- Slot invariant, per-step form: from any reachable state, a timely step either does not increase the
number of held slots (uploads initialising / uploading + uploads chosen by a cycle), or leaves it at most the
slot setting **at that step**.  The only step that takes slots is the cycle, and it takes them under the
limit in force when it decides; `record` (the step that makes an upload INITIALIZING) takes none.  (So with
a lowered limit what was started goes on, and nothing new starts until the count fits.) -/
theorem C05_slot_invariant (s : Sched) (hi : Inv s) (op : Op) (ht : timelyOp s op = true) :
    (step s op).heldCount ≤ s.heldCount ∨ (step s op).heldCount ≤ (step s op).slots :=
  (step_effect s op).heldCount_le hi ht

/-- The scheduler's own count never exceeds the number of held slots. -/
theorem C05_active_le_held (s : Sched) : s.procUploads ≤ s.heldCount :=
  countP_mono_left fun _ _ hp => held_of_proc hp

/-- Corollary for a constant limit: if the slot setting is never changed, the number of held slots — and with
it the number of initialising / uploading uploads — never exceeds it, whatever the (timely) schedule. -/
theorem C05_slot_invariant_const (n : Nat) (ops : List Op) (hc : ∀ op ∈ ops, ∀ m, op ≠ .setSlots m)
    (ht : Timely { slots := n } ops) :
    (runFrom { slots := n } ops).procUploads ≤ n ∧ (runFrom { slots := n } ops).heldCount ≤ n ∧
      (runFrom { slots := n } ops).slots = n := by
  have ⟨hh, hs⟩ := heldCount_le_slots_runFrom (inv_init n) (Nat.zero_le n) ops hc ht
  exact ⟨Nat.le_trans (C05_active_le_held _) hh, hh, hs⟩

/-- The hypothesis `Timely` cannot be dropped (slot limit): one slot; a cycle chooses user 0's upload; before
its task records the decision a privileged user queues a file and a second cycle is served — it ranks the new
upload first, the chosen one has lost its place in `uploads[:1]` and nothing else counts it; both tasks then
record: two uploads initialising with one slot.  (`manage_transfers` itself has no guard against this: the
window must be closed by the schedule.) -/
theorem C05_untimely_cycle_breaks_slot_limit :
    let ops : List Op := [.privList [1], .addUpload 0, .cycle, .addUpload 1, .cycle, .record 0, .record 1]
    ¬ Timely { slots := 1 } ops ∧ (runFrom { slots := 1 } ops).procUploads = 2 ∧
      (runFrom { slots := 1 } ops).slots = 1 := by decide +kernel

/-- The hypothesis `Timely` cannot be dropped (one upload per user): user 0's first upload failed and a second
one is chosen by a cycle; before its task records the decision the peer re-queues the first (earlier in the
list: it is now "the first queued upload of the user", and the user is not counted as uploading) and a second
cycle is served: both uploads of user 0 become active. -/
theorem C05_untimely_cycle_breaks_one_per_user :
    let ops : List Op := [.addUpload 0, .cycle, .record 0, .failX 0, .addUpload 0, .cycle, .requeue 0, .cycle,
                          .record 1, .record 0]
    ¬ Timely { slots := 2 } ops ∧
      ((runFrom { slots := 2 } ops).xs.map (fun x => (x.user, x.procUpload))) = [(0, true), (0, true)] := by decide +kernel

/-- Work conservation of `manage_transfers`: right after a timely decision either every slot is taken — held by an
upload that is initialising / uploading or that the cycle has just chosen, or kept for an upload the cycle passed
over because an earlier task of it is still running (it is watched: the cycle is repeated when that task ends,
`C05_passed_over_is_looked_at_again`) — or every eligible queued upload has been chosen or is watched. -/
theorem C05_work_conserving_start (s : Sched) (hi : Inv s) (hn : s.noInflight = true) :
    s.slots ≤ s.start.heldCount + s.start.watchedCount ∨
      ∀ y ∈ s.start.eligible, y.inflight = true ∨ y.watched = true := by
  by_cases hl : s.eligible.length ≤ s.freeSlots
  · right
    have hsel : s.select = s.eligible := take_of_length_le hl
    intro y hy
    obtain ⟨x, hx, rfl⟩ := mem_eligible_start hy
    exact markSel_marks (hsel ▸ hx)
  · left
    -- the selection fills the free slots; each selected upload is held or watched afterwards
    have hlen : s.select.length = s.slots - s.procUploads :=
      length_take.trans (Nat.min_eq_left (Nat.le_of_not_le hl))
    have h1 := heldCount_start hi hn
    have h0 := heldCount_of_noInflight hn
    have h2 := watchedCount_start_ge hi
    have h3 := taskSel_add_lingerSel s.select
    omega

/-- Work conservation: right after a timely management cycle (tracking + scheduling) either every slot is taken
(held, or kept for a watched upload) or every eligible queued upload has its task or is watched (every state a
timely schedule reaches satisfies `Inv`, see `C05_work_conserving_run`). -/
theorem C05_work_conserving (s : Sched) (hi : Inv s) (hn : s.noInflight = true) :
    s.slots ≤ s.cycle.heldCount + s.cycle.watchedCount ∨
      ∀ y ∈ s.cycle.eligible, y.inflight = true ∨ y.watched = true :=
  C05_work_conserving_start s.track hi hn

theorem C05_work_conserving_run (n : Nat) (ops : List Op) (ht : Timely { slots := n } ops) :
    let s := runFrom { slots := n } ops
    s.noInflight = true → (s.slots ≤ s.cycle.heldCount + s.cycle.watchedCount ∨
      ∀ y ∈ s.cycle.eligible, y.inflight = true ∨ y.watched = true) :=
  fun hn => C05_work_conserving _ (inv_runFrom (inv_init n) ops ht) hn

/-- A watched upload is looked at again: when the lingering task of an upload a cycle passed over ends — whether
or not the failure could be reported — a management cycle is requested (the done callback of
`fixes/C05-passed-over-upload-looked-at-again.patch`; without it nothing would: no state changes when the report
is delivered).  An upload that is offered again because the downloader could not be told requests one by its
state change. -/
theorem C05_passed_over_is_looked_at_again (s : Sched) (k : Nat) (d : Bool) (x : Xfer) (hx : x ∈ s.xs) (hk : x.id = k)
    (hl : x.lingering = true) (hw : x.watched = true ∨ (d = false ∧ x.st = .failed)) (hi : Inv s) :
    s.accepts (.noticeEnd k d) = true ∧ (step s (.noticeEnd k d)).cyclePending = true ∧
      ∀ y ∈ (step s (.noticeEnd k d)).xs, y.id = k → y.lingering = false ∧ y.watched = false := by
  have hg : s.get? k = some x := hk ▸ get?_of_mem hi hx
  have ha : s.accepts (.noticeEnd k d) = true := by simp [Sched.accepts, hg, hl]
  have hs : step s (.noticeEnd k d) = s.endNotice k d := if_pos ha
  rw [hs]
  refine ⟨ha, Bool.or_eq_true_iff.mpr (.inr (any_eq_true.mpr ⟨x, hx, ?_⟩)), fun y hy hyk => ?_⟩
  · rcases hw with hw | ⟨hd, hs⟩
    · simp [hk, hw]
    · simp [hk, hd, hs]
  · obtain ⟨z, _, rfl⟩ := mem_map.mp hy
    split at hyk
    · rw [if_pos ‹_›]
      exact ⟨rfl, rfl⟩
    · exact absurd hyk ‹_›

/-- Once a chosen upload has recorded the decision the scheduler's own count shows its slot: recording
moves a held slot from "chosen" to "initialising", it neither takes nor frees one. -/
theorem C05_record_keeps_held (s : Sched) (hi : Inv s) (k : Nat) (ha : s.accepts (.record k) = true) :
    (step s (.record k)).heldCount = s.heldCount ∧ (step s (.record k)).procUploads = s.procUploads + 1 := by
  obtain ⟨x, hg, hd, hq, hi', hs⟩ := record_spec ha
  have ⟨hx, hk⟩ := get?_spec hg
  -- one transfer changes: it holds a slot before (chosen) and after (initialising), and is counted only after
  have hc := fun p => countP_update p (g := fun y => if y.id = k then y.withSt .initializing else y) hi.nodup hx
    fun y hy hyx => if_neg fun e => hyx (hi.unique_id hy hx (e.trans hk.symm))
  have hp : (x.withSt .initializing).procUpload = true := by rw [Xfer.procUpload, withSt_dir, hd]; rfl
  have h1 := hc Xfer.held
  have h2 := hc Xfer.procUpload
  rw [if_pos hk, hp, not_proc_of_queued hq] at h2
  rw [if_pos hk, held_of_proc hp, Xfer.held, hi', Bool.or_true] at h1
  rw [hs]
  exact ⟨Nat.add_right_cancel h1, h2⟩

/-- Every op that adds a transfer or changes the state of one leaves a cycle request behind (a cycle itself changes
no state: it creates tasks, whose first step — `record`, enabled by `C05_inflight_is_queued_upload` — does, or
leaves a watch, `C05_passed_over_is_looked_at_again`): a queued upload of an eligible user is looked at again
after every change, and by `C05_work_conserving` started while slots are free.  (Reports of the server request
a cycle too: `C05_report_requests_cycle`.) -/
theorem C05_change_requests_cycle (s : Sched) (op : Op)
    (hne : (step s op).xs.map (·.st) ≠ s.xs.map (·.st)) : (step s op).cyclePending = true :=
  (step_effect s op).requests_cycle hne

/-- The record of a decision requests the next cycle (the state change is reported to the manager's own state
listener, manager.py:1227-1230). -/
theorem C05_record_requests_cycle (s : Sched) (k : Nat) (ha : s.accepts (.record k) = true) :
    (step s (.record k)).cyclePending = true := by
  obtain ⟨_, _, _, _, _, hs⟩ := record_spec ha
  rw [hs]
  rfl

/-! The ranking and the offline filter read `s.users`, i.e. the user manager's weak dictionary (`store`).
`ref` is the specification: for a user who has had an unfinished transfer at every cycle since cycle
`c`, the last status / privilege the server reported after `c` (a fresh entry — status unknown,
privileged per the last privileged list — while nothing was reported); no knowledge is claimed for a
user whose transfers were all finalized at the last cycle. -/

/-- the specification reads as intended: a status report overwrites the entry of a user whose tracking is
due, an answer to the tracking request sets its status, a privileged list sets its privilege flag;
nothing else but a cycle touches it; a cycle keeps the entry of a user with an unfinished transfer (or
starts one) and forgets everybody else. -/
theorem C05_ref_semantics (s : Sched) (u : Nat) :
    (∀ st p, (step s (.report u st p)).ref u = (s.ref u).map (fun _ => { status := st, privileged := p })) ∧
    (∀ st, (step s (.reply u (some st))).ref u = (s.ref u).map (fun k => { k with status := st })) ∧
    (step s (.reply u none)).ref u = s.ref u ∧
    (∀ l, (step s (.privList l)).ref u = (s.ref u).map (fun k => { k with privileged := l.contains u })) ∧
    (∀ v st p, v ≠ u → (step s (.report v st p)).ref u = s.ref u) ∧
    (∀ v st, v ≠ u → (step s (.reply v st)).ref u = s.ref u) ∧
    (∀ op, (∀ v st p, op ≠ .report v st p) → (∀ v st, op ≠ .reply v st) → (∀ l, op ≠ .privList l) → op ≠ .cycle →
      (step s op).ref u = s.ref u) ∧
    (s.cycle.ref u = if s.unfinishedUser u then some ((s.ref u).getD (s.fresh u)) else none) := by
  refine ⟨fun st p => ?_, fun st => ?_, rfl, fun l => rfl, fun v st p hv => ?_, fun v st hv => ?_,
    fun op h1 h2 h3 h4 => ?_, track_ref s u⟩
  · exact if_pos rfl
  · exact if_pos rfl
  · exact if_neg (Ne.symm hv)
  · cases st
    · rfl
    · exact if_neg (Ne.symm hv)
  · refine congrFun ((step_effect s op).ref_eq h4 fun hs => ?_) u
    cases hs with
    | report v st p => exact h1 v st p rfl
    | reply v st => exact h2 v st rfl
    | privList l => exact h3 l rfl

/-- The bookkeeping invariant: in every reachable state the weak dictionary holds, for every user, exactly
what the specification says — nothing the server reported while the user had an unfinished transfer at
every cycle is lost, and nothing else is remembered. -/
theorem C05_seen_is_last_reported (n : Nat) (ops : List Op) (u : Nat) :
    (runFrom { slots := n } ops).store u = (runFrom { slots := n } ops).ref u :=
  congrFun (trackInv_runFrom (trackInv_init n) ops).same u

/-- Tracked while an unfinished transfer exists: at the scheduling decision of every cycle the user manager
holds the object of every user who has a transfer that is not finalized, whatever the order of the
transfer list (interleaved users, finalized transfers in between). -/
theorem C05_tracked_at_decision (s : Sched) (x : Xfer) (hx : x ∈ s.xs) (hf : x.finalized = false) :
    (s.track.store x.user).isSome = true := by
  rw [track_store, unfinishedUser_of_mem hx hf]
  rfl

/-- Between two cycles nothing is dropped or added: only a cycle changes who is held. -/
theorem C05_held_between_cycles (s : Sched) (op : Op) (hc : op ≠ .cycle) (u : Nat) :
    ((step s op).store u).isSome = (s.store u).isSome :=
  (step_effect s op).store_isSome hc u

/-- Eligibility and rank of a cycle's decision in terms of the server's reports: an upload started by a
management cycle (from any reachable state) belongs to a user whose last reported status is not OFFLINE,
and the `UserInfo` the ranking used for ANY user with an unfinished transfer is the last report. -/
theorem C05_decision_uses_last_report (n : Nat) (ops : List Op) :
    let s := (runFrom { slots := n } ops).track
    (∀ x ∈ s.xs, x.finalized = false → ∃ k, s.ref x.user = some k ∧
        s.users x.user = { status := k.status, friend := s.friends x.user, privileged := k.privileged }) ∧
    (∀ t ∈ s.select, ∃ k, s.ref t.user = some k ∧ k.status ≠ .offline) := by
  intro s
  have hinv : TrackInv s := trackInv_track (trackInv_runFrom (trackInv_init n) ops)
  have key : ∀ x ∈ s.xs, x.finalized = false → ∃ k, s.ref x.user = some k ∧
      s.users x.user = { status := k.status, friend := s.friends x.user, privileged := k.privileged } := by
    intro x hx hf
    have hs : (s.store x.user).isSome = true := C05_tracked_at_decision (runFrom { slots := n } ops) x hx hf
    obtain ⟨k, hk⟩ := Option.isSome_iff_exists.mp hs
    exact ⟨k, by rw [← hinv.same, hk], by simp [Sched.users, hk]⟩
  refine ⟨key, fun t ht => ?_⟩
  have ⟨h1, _, h3, h4, _⟩ := select_spec ht
  obtain ⟨k, hk, hu⟩ := key t h1 (by simp [Xfer.finalized, h3])
  exact ⟨k, hk, by rw [hu] at h4; exact h4⟩

/-- A report of the server requests a management cycle (manager.py:1211-1221). -/
theorem C05_report_requests_cycle (s : Sched) (u : Nat) (st : UStatus) (p : Bool) (r : Option UStatus) :
    (step s (.report u st p)).cyclePending = true ∧ (step s (.reply u r)).cyclePending = true := by
  cases r <;> exact ⟨rfl, rfl⟩

/-! The hypotheses are satisfiable: reachable states with contention. -/

/-- three users queue with no slot; the cycle starts tracking them, the server answers; one slot opens: the
privileged user who queued last is chosen (task created, still QUEUED), the task's first step records it, the
others wait; the schedule is timely -/
example :
    let ops : List Op :=
      [.privList [2], .friend 1 true, .addUpload 0, .addUpload 1, .addUpload 2, .addUpload 2, .cycle,
       .reply 0 (some .online), .reply 1 (some .away), .reply 2 (some .online), .setSlots 1]
    let s := runFrom { slots := 0 } ops
    s.track.select.map (·.id) = [2] ∧ s.track.eligible.map (·.id) = [2, 1, 0] ∧
      (step s .cycle).xs.map (fun x => (x.st, x.inflight)) =
        [(.queued, false), (.queued, false), (.queued, true), (.queued, false)] ∧
      (step s .cycle).heldCount = 1 ∧ (step s .cycle).procUploads = 0 ∧
      (step (step s .cycle) (.record 2)).xs.map (·.st) = [.queued, .queued, .initializing, .queued] ∧
      (step (step s .cycle) (.record 2)).freeSlots = 0 ∧
      Timely { slots := 0 } (ops ++ [.cycle, .record 2, .cycle]) := by decide +kernel

/-- events between decision and record: the chosen upload is aborted before its task's first step (the task is
cancelled, the record never happens), another peer queues a file, the limit moves; the next cycle is timely -/
example :
    let ops : List Op := [.addUpload 0, .addUpload 1, .cycle, .abort 1, .addUpload 2, .setSlots 1, .record 0, .cycle]
    let s := runFrom { slots := 2 } ops
    Timely { slots := 2 } ops ∧ s.xs.map (fun x => (x.st, x.inflight)) =
      [(.initializing, false), (.aborted, false), (.queued, false)] ∧ s.accepts (.record 1) = false ∧
      s.heldCount = 1 := by decide +kernel

/-- an upload breaks in mid-transfer; while its task still reports the failure the peer queues the file again: the
cycle passes the upload over (no second task) and watches it; when the report ends — delivered or not — a cycle is
requested and starts the upload -/
example :
    let ops : List Op := [.addUpload 0, .cycle, .record 0, .started 0, .breakX 0, .cycle, .requeue 0, .cycle]
    let s := runFrom { slots := 1 } ops
    Timely { slots := 1 } ops ∧
      s.xs.map (fun x => (x.st, x.inflight, x.lingering, x.watched)) = [(.queued, false, true, true)] ∧
      s.cyclePending = false ∧ s.heldCount = 0 ∧ s.watchedCount = 1 ∧
      (step s (.noticeEnd 0 true)).cyclePending = true ∧
      (step (step s (.noticeEnd 0 true)) .cycle).xs.map (fun x => (x.st, x.inflight, x.lingering, x.watched)) =
        [(.queued, true, false, false)] ∧
      -- the report fails while the upload is still FAILED: it is offered again
      (runFrom { slots := 1 } [.addUpload 0, .cycle, .record 0, .started 0, .breakX 0, .noticeEnd 0 false]).xs.map (·.st)
        = [.queued] := by decide +kernel

/-- one slot; the upload of privileged user 0 breaks, the report hangs, user 0 queues the file again and is passed
over; user 1 asks for a file: the free slot stays user 0's (no task for user 1), and when the report ends the cycle
it requested starts user 0's upload -/
example :
    let ops : List Op := [.privList [0], .addUpload 0, .cycle, .record 0, .started 0, .breakX 0, .cycle, .requeue 0,
      .cycle, .addUpload 1, .cycle]
    let s := runFrom { slots := 1 } ops
    Timely { slots := 1 } ops ∧
      s.xs.map (fun x => (x.st, x.inflight, x.lingering, x.watched)) =
        [(.queued, false, true, true), (.queued, false, false, false)] ∧
      s.select.map (·.id) = [0] ∧ s.started = [] ∧ (passedOver s).map (·.id) = [0] ∧ s.eligible.map (·.id) = [0, 1] ∧
      (step (step s (.noticeEnd 0 true)) .cycle).xs.map (fun x => (x.st, x.inflight)) =
        [(.queued, true), (.queued, false)] := by decide +kernel

/-- the limit is lowered below the number of running uploads: nothing starts until it fits -/
example :
    let s := runFrom { slots := 2 }
      [.addUpload 0, .addUpload 1, .addUpload 2, .cycle, .record 2, .record 1, .setSlots 1, .started 2, .finish 2,
       .cycle]
    s.procUploads = 1 ∧ s.slots = 1 ∧ s.select = [] ∧ s.eligible.map (·.id) = [0] ∧ s.noInflight = true := by decide +kernel

/-- an offline user is never served, a busy user's second upload waits -/
example :
    let s := runFrom { slots := 0 }
      [.privList [1], .addUpload 0, .addUpload 0, .addUpload 1, .cycle, .report 1 .offline true, .setSlots 4, .cycle,
       .record 0]
    s.xs.map (·.st) = [.initializing, .queued, .queued] ∧ s.cycle.eligible = [] ∧ s.cycle.freeSlots = 3 := by decide +kernel

/-- interleaved arrivals (user 0, user 1, user 0), the later upload of user 0 is aborted: user 0 stays
tracked, the OFFLINE report is what every later cycle sees, the queued upload is not started; once all of
user 0's uploads are finalized the entry is dropped, and a report for the untracked user is not kept -/
example :
    let s := runFrom { slots := 0 }
      [.addUpload 0, .addUpload 1, .addUpload 0, .cycle, .reply 0 (some .online), .reply 1 (some .online),
       .report 0 .offline false, .abort 2, .cycle, .setSlots 4, .addUpload 3, .cycle, .record 3, .record 1]
    s.xs.map (·.st) = [.queued, .initializing, .aborted, .initializing] ∧
      s.store 0 = some { status := .offline } ∧
      ((step (step (step s (.abort 0)) .cycle) (.report 0 .online true)).store 0 = none) := by decide +kernel

end AioslskVerif.C05
