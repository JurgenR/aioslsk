import AioslskVerif.Proofs.Entitle
/-!
# C08 — files are only offered and uploaded to users entitled to them

The model (`Model/Entitle.lean`) is that of the code after `fixes/C08-excluded-phrase-case.patch` and
`fixes/C08-reload-announces-removed.patch`.

Reading (DESIGN.md): (1) the visible part of a search reply / shares reply for user `u` holds no
item whose directory is locked for `u`; (2) no search reply holds an item whose lower-cased path
contains a lower-cased excluded phrase, none goes to a user blocked for searches; (3) an upload is
created or put back in the queue by a peer's request only if the user is not blocked for uploads and
the requested path is exactly the remote path of an indexed item whose directory is not locked for
the user; (4) a management cycle that runs with the shares-changed flag leaves every upload that is
not COMPLETE / FAILED: untouched if it was aborted on the user's request, else ABORTED with reason
Blocked / File not shared (first that applies, in that order) iff that applies, and QUEUED again if
it was aborted and nothing applies any more.

(5) every way a change of the friends list, the block list or the shared directories reaches the
managers — shares API, settings + `load_from_settings()`, in-place edits of the settings' lists, the
user manager's poll of `settings.users.friends` / `.blocked`, a scan — requests such a cycle, and no
request is lost before a cycle starts.

(6) a cycle that runs while a state method of an upload is in flight — its state lock held: `pause()`
/ `abort()` waiting for the upload's task to close its file connection, a transition waiting for its
listeners — decides on what the upload shows, its own `abort(…)` waits for the lock (the job with it)
and lands after everything that was pending: the upload ends ABORTED for the matching reason or on the
user's request, or finished (`C08_change_during_transition*`, `C08_job_waits_for_locked_upload`).

Known findings (not repaired): `create_directory_reply` takes no user, so the files of a locked
directory are listed to anybody who asks for that directory (`C08_directory_listing_*`); a polled
setting that is changed and changed back within one polling interval of the user manager is never
announced (`C08_settings_change_pending_partial`, `C08_flip_between_polls_counterexample`); proposed:
a re-queue that waits behind the lock of an upload showing ABORTED / COMPLETE / FAILED runs after the
cycle looked (`C08_change_during_transition_partial`, `C08_requeue_behind_lock_counterexample`).
-/
namespace AioslskVerif.C08
open AioslskVerif AioslskVerif.Transfer AioslskVerif.Entitle
open AioslskVerif.Generated.Entitle

/-- Every gate tests the blocking flag the property names (uploads: 32 at the two request handlers
and in the cycle; searches: 4; shares: 8), the cycle tests "requested, blocked, not shared" in that
order, a blocked user is told "File not shared.", and the excluded phrase is lower-cased. -/
theorem C08_generated_constants :
    gateFlags = [("evaluate", "UPLOADS", 32), ("queue", "UPLOADS", 32), ("request", "UPLOADS", 32),
                 ("search", "SEARCHES", 4), ("shares", "SHARES", 8), ("directory", "SHARES", 8)] ∧
    evalFlag = 32 ∧ queueFlag = 32 ∧ requestFlag = 32 ∧ searchFlag = 4 ∧ sharesFlag = 8 ∧ dirFlag = 8 ∧
    conditions = [(.abortRequested, .requested), (.userBlocked, .blocked), (.notShared, .notShared)] ∧
    requestedReason = .requested ∧ skipStates = [.complete, .failed] ∧
    queueBlockedReason = .notShared ∧ requestBlockedReason = .notShared ∧ phraseFolded = true :=
  ⟨rfl, rfl, rfl, rfl, rfl, rfl, rfl, rfl, rfl, rfl, rfl, rfl, rfl⟩

/-- `is_directory_locked` says what the property says: a friends-only directory is locked for
everybody not in the friends list, a directory shared with named users for everybody else. -/
theorem C08_locked_spec (c : Cfg) (p : List Comp) (u : Name) (d : DirInfo) (hd : dirInfo c p = some d) :
    locked c p u = true ↔
      (d.mode = .friends ∧ u ∉ c.friends) ∨ (∃ us, d.mode = .users us ∧ u ∉ us) := by
  simp only [locked, hd]
  cases hm : d.mode with
  | everyone => simp
  | friends => simp
  | users us => simp

/-- **Search reply**: every normal result is an indexed item (held by the term map) whose directory
is not locked for the asking user; every item of the locked part is locked; nothing that was found
is dropped by the split. -/
theorem C08_visible_unlocked (K : Query.Cls Ch) (c : Cfg) (sh : Shares.St Comp) (u : Name) (q : List Ch)
    (vis lk : List SItem) (h : searchReply K c sh u q = some (vis, lk)) :
    (∀ it ∈ vis, locked c it.sd u = false ∧ it ∈ sh.tm) ∧
    (∀ it ∈ lk, locked c it.sd u = true ∧ it ∈ sh.tm) ∧
    (∀ it ∈ found K c sh q, it ∈ vis ∨ it ∈ lk) := by
  obtain ⟨rfl, rfl⟩ := searchReply_some h
  refine ⟨fun it hit => ?_, fun it hit => ?_, fun it hit => ?_⟩
  · exact ⟨by simpa using (List.mem_filter.1 hit).2, (mem_found (List.mem_filter.1 hit).1).1⟩
  · exact ⟨(List.mem_filter.1 hit).2, (mem_found (List.mem_filter.1 hit).1).1⟩
  · cases hl : locked c it.sd u
    · exact Or.inl (List.mem_filter.2 ⟨hit, by simp [hl]⟩)
    · exact Or.inr (List.mem_filter.2 ⟨hit, hl⟩)

/-- … and on every state the operations can reach, "held by the term map" is "indexed now". -/
theorem C08_visible_indexed (K : Query.Cls Ch) (s : S) (hs : s.sh = {}) (ops : List Op) (u : Name) (q : List Ch)
    (vis lk : List SItem)
    (h : searchReply K (run s ops).cfg (run s ops).sh u q = some (vis, lk)) :
    ∀ it ∈ vis ++ lk, it ∈ (run s ops).sh.items := by
  have hinv : Shares.Inv (run s ops).sh := inv_run_sh ops s (by rw [hs]; exact Shares.inv_init)
  obtain ⟨h1, h2, _⟩ := C08_visible_unlocked K _ _ u q vis lk h
  intro it hit
  rcases List.mem_append.1 hit with hit | hit
  · exact (hinv.tm_sync it).1 (h1 it hit).2
  · exact (hinv.tm_sync it).1 (h2 it hit).2

/-- **Shares reply**: every file named in the normal part is an indexed item of a directory that is
not locked for the asking user (and sits in exactly that remote directory). -/
theorem C08_shares_visible_unlocked (c : Cfg) (sh : Shares.St Comp) (u : Name)
    (vis lk : List (List Comp × List Comp)) (h : sharesReply c sh u = some (vis, lk)) :
    (∀ e ∈ vis, ∀ n ∈ e.2, ∃ it ∈ sh.items, locked c it.sd u = false ∧ remoteDirParts c it = e.1 ∧ it.name = n) ∧
    (∀ e ∈ lk, ∀ n ∈ e.2, ∃ it ∈ sh.items, locked c it.sd u = true ∧ remoteDirParts c it = e.1 ∧ it.name = n) := by
  simp only [sharesReply] at h
  split at h
  · cases h
  · simp only [Option.some.injEq, Prod.mk.injEq] at h
    obtain ⟨rfl, rfl⟩ := h
    constructor
    · intro e he n hn
      obtain ⟨it, hit, h1, h2⟩ := mem_listing he hn
      exact ⟨it, (List.mem_filter.1 hit).1, by simpa using (List.mem_filter.1 hit).2, h1, h2⟩
    · intro e he n hn
      obtain ⟨it, hit, h1, h2⟩ := mem_listing he hn
      exact ⟨it, (List.mem_filter.1 hit).1, (List.mem_filter.1 hit).2, h1, h2⟩

/-- **No search reply — normal or locked part — holds an item whose lower-cased path contains a
lower-cased excluded phrase**, whatever the letter case in which the server sent the phrase. -/
theorem C08_no_excluded_phrase (K : Query.Cls Ch) (c : Cfg) (sh : Shares.St Comp) (u : Name) (q : List Ch)
    (vis lk : List SItem) (h : searchReply K c sh u q = some (vis, lk)) :
    ∀ it ∈ vis ++ lk, ∀ ph ∈ c.excluded,
      ¬ ∃ l r, (qp it).map K.fold = l ++ ph.map K.fold ++ r := by
  obtain ⟨rfl, rfl⟩ := searchReply_some h
  intro it hit ph hph ⟨l, r, hc⟩
  have hf : it ∈ found K c sh q := by
    rcases List.mem_append.1 hit with hit | hit <;> exact (List.mem_filter.1 hit).1
  have hx := (mem_found hf).2
  simp only [excludedBy, List.any_eq_false, show phraseFolded = true from rfl, if_true] at hx
  exact hx ph hph ((infixB_iff _ _).2 ⟨l, r, hc.symm⟩)

/-- **Nothing is sent to a blocked user**: no search reply to a user blocked for searches (flag 4),
no shares / directory reply to a user blocked for shares (8); a user blocked for uploads (32) gets
"File not shared." on both upload entry points and the uploads stay as they are. -/
theorem C08_no_reply_to_blocked (K : Query.Cls Ch) (c : Cfg) (sh : Shares.St Comp) (u : Name) :
    (isBlocked c u 4 = true → ∀ q, searchReply K c sh u q = none) ∧
    (isBlocked c u 8 = true → sharesReply c sh u = none ∧ ∀ req, dirReply c sh u req = none) ∧
    (isBlocked c u 32 = true → ∀ xs p,
        onQueue c sh xs u p = (xs, some .notShared) ∧ onRequest c sh xs u p = (xs, some .notShared)) := by
  refine ⟨fun hb q => ?_, fun hb => ⟨?_, fun req => ?_⟩, fun hb xs p => ⟨?_, ?_⟩⟩
  · simp [searchReply, show searchFlag = 4 from rfl, hb]
  · simp [sharesReply, show sharesFlag = 8 from rfl, hb]
  · simp [dirReply, show dirFlag = 8 from rfl, hb]
  · simp [onQueue, show queueFlag = 32 from rfl, show queueBlockedReason = .notShared from rfl, hb]
  · simp [onRequest, show requestFlag = 32 from rfl, show requestBlockedReason = .notShared from rfl, hb]

/-- **Admission is sound at both entry points** (`PeerTransferQueue`, `PeerTransferRequest`), for
every configuration, index, list of uploads, user and requested string (so: case variants, doubled
or trailing separators, paths through a parent's alias, unknown names — anything that is not
exactly an unlocked item's remote path — create nothing and are refused). -/
theorem C08_admit_sound (c : Cfg) (sh : Shares.St Comp) (xs : List Xfer) (u : Name) (p : List Ch) :
    AdmitSound c sh xs u p (onQueue c sh xs u p) ∧ AdmitSound c sh xs u p (onRequest c sh xs u p) :=
  ⟨(onQueue_admitted c sh xs u p).sound, (onRequest_admitted c sh xs u p).sound⟩

/-- **The finite table**: `manage_shares_changed` on one upload, for every state × abort reason ×
(blocked, not shared) combination (160 rows, from the regenerated transfer table and condition
order). -/
theorem C08_reconcile_table (b n : Bool) (st : St) (r : Option Reason)
    (h1 : st ≠ .complete) (h2 : st ≠ .failed) (h3 : st ≠ .virgin) :
    (r = some .requested → st = .aborted → reconcileSR b n (st, r) = (st, r)) ∧
    (r ≠ some .requested → b = true → reconcileSR b n (st, r) = (.aborted, some .blocked)) ∧
    (r ≠ some .requested → b = false → n = true → reconcileSR b n (st, r) = (.aborted, some .notShared)) ∧
    (r ≠ some .requested → b = false → n = false → st = .aborted → reconcileSR b n (st, r) = (.queued, none)) ∧
    (r ≠ some .requested → b = false → n = false → st ≠ .aborted → reconcileSR b n (st, r) = (st, r)) := by
  have h := reconcileSR_eq b n st r h1 h2 h3
  rw [verdict_spec] at h
  refine ⟨fun hr ha => ?_, fun hr hb => ?_, fun hr hb hn => ?_, fun hr hb hn ha => ?_, fun hr hb hn ha => ?_⟩
  · rw [h, if_pos hr, ha, hr]
  · rw [h, if_neg hr, hb]; rfl
  · rw [h, if_neg hr, hb, hn]; rfl
  · rw [h, if_neg hr, hb, hn, ha]; rfl
  · rw [h, if_neg hr, hb, hn]; simp [ha]

/-- COMPLETE and FAILED uploads are left alone. -/
theorem C08_reconcile_finished (b n : Bool) (x : Xfer) (h : x.state = .complete ∨ x.state = .failed) :
    reconcileX b n x = x := by
  cases x with
  | mk u p st r =>
    simp only at h
    rcases h with rfl | rfl <;> rfl

/-- **Post-condition of a management cycle that runs with the shares-changed flag**, lifted from
the table to any list of uploads in any configuration: the uploads keep their places, and every one
that is not COMPLETE / FAILED and whose state lock is free is `Reconciled` (VIRGIN exists only inside
`_add_upload`, between `add` and `queue` of one handler run, never at a settled point). For the
uploads whose lock is held see `C08_change_during_transition` below. The flag is cleared — unless a
state lock is held and the code asks for another look then (`relookWhenLocked`: it does after
`fixes/C08-relook-after-state-lock.patch`). -/
theorem C08_reconcile (s : S) (hflag : s.sharesChanged = true) (hjob : jobWaiting s.flights = false)
    (hU : UniquePaths s.cfg s.sh) :
    (step s .cycle).1.xs.length = s.xs.length ∧
    (step s .cycle).1.sharesChanged = (relookWhenLocked && !s.flights.isEmpty) ∧
    ∀ (k : Nat) (x : Xfer), s.xs[k]? = some x → isLocked s.flights k = false →
      x.state ≠ .complete → x.state ≠ .failed → x.state ≠ .virgin →
      ∃ x', (step s .cycle).1.xs[k]? = some x' ∧ Reconciled s.cfg s.sh x x' := by
  rw [cycle_runs s hflag hjob]
  refine ⟨length_reconcileFrom .., rfl, fun k x hk hfree h1 h2 h3 => ⟨reconcile1 s.cfg s.sh x, ?_, reconcile1_spec s.cfg s.sh hU x h1 h2 h3⟩⟩
  simp only [getElem?_reconcileFrom, hk, Option.map_some, Nat.zero_add, cycleOne_free _ _ _ _ _ hfree]

/-- … and with no state lock held at all this is `manage_shares_changed` as a plain map. -/
theorem C08_reconcile_no_lock (s : S) (hflag : s.sharesChanged = true) (hno : s.flights = []) :
    (step s .cycle).1.xs = reconcile s.cfg s.sh s.xs ∧ (step s .cycle).1.flights = [] := by
  simp [step, hflag, hno, jobWaiting, reconcileL_free]

/-- Without the flag a cycle does not touch the uploads' abort state. -/
theorem C08_cycle_idle (s : S) (hflag : s.sharesChanged = false) : (step s .cycle).1 = s :=
  cycle_idle s hflag

/-! ## Every change is followed by a cycle that sees it

`_management_job` snapshots and clears `_management_flags` in the step in which it wakes up, so the
model's `.cycle` is that step together with `manage_shares_changed`; the rest of the job changes
nothing that is modelled. A change that arrives while a job is still suspended in one of its awaits
is therefore simply an op after that `.cycle` — and it sets the flag again.

The hypothesis `WF s` (the configured directories are the shared ones, the index is well-formed)
holds in every reachable state: `Entitle.wf_init`, `Entitle.wf_step`, `Entitle.wf_run`. -/

/-- **The shares-changed flag is set by every op that changes anything entitlement depends on as far
as it has been announced** — the shared directories (alias, mode, users), the indexed items, and the
friends / block list as the user manager last saw them — **and only a cycle clears it.** -/
theorem C08_change_requests_cycle (s : S) (hwf : WF s) (op : Op) (hop : op ≠ .cycle)
    (h : s.sharesChanged = true ∨ announcedInputs (step s op).1 ≠ announcedInputs s) :
    (step s op).1.sharesChanged = true := by
  rcases h with h | h
  · exact flag_persists s op hop h
  · rcases step_flag_or_quiet s op hop with h' | h'
    · exact h'
    · exact absurd (by simp only [announcedInputs, h'.seenFriends, h'.seenBlocked, h'.index hwf]) h

/-- **No announced change is lost**: after an op that changed anything entitlement depends on (as
announced), whatever follows that is not a cycle (requests, further changes — also those raised
while an earlier cycle's job is still suspended), the flag is set when the next cycle starts;
`C08_reconcile` then applies to that cycle, against the configuration as it is at that moment. -/
theorem C08_change_seen_by_next_cycle (s : S) (hwf : WF s) (op : Op) (mid : List Op) (hop : op ≠ .cycle)
    (hmid : ∀ o ∈ mid, o ≠ .cycle)
    (h : announcedInputs (step s op).1 ≠ announcedInputs s) :
    (run (step s op).1 mid).sharesChanged = true :=
  flag_persists_run mid hmid _ (C08_change_requests_cycle s hwf op hop (Or.inr h))

/-- **The poll announces**: one run of the user manager's polling job leaves its copies equal to the
two settings, touches neither the configuration nor the uploads, and — whenever a setting differed
from its copy, or a change was announced already — the shares-changed flag is set afterwards. So a
friends / block list that differs from what was announced at a polling instant is announced at that
instant (`C08_change_requests_cycle` sees `announcedInputs` change). -/
theorem C08_poll_announces (s : S) :
    (step s .poll).1.seenFriends = s.cfg.friends ∧ (step s .poll).1.seenBlocked = s.cfg.blocked ∧
    (step s .poll).1.cfg = s.cfg ∧ (step s .poll).1.sh = s.sh ∧ (step s .poll).1.xs = s.xs ∧
    (pending s = true → (step s .poll).1.sharesChanged = true) := by
  simp only [step]
  split
  · exact ⟨rfl, rfl, rfl, rfl, rfl, fun _ => rfl⟩
  · rename_i hr
    simp only [Bool.or_eq_true, bne_iff_ne, ne_eq, not_or, Decidable.not_not] at hr
    refine ⟨hr.1, hr.2, rfl, rfl, rfl, fun hp => ?_⟩
    simpa [pending, hr.1, hr.2] using hp

/-! ### The settings themselves (not what was announced of them)

Full statement (given here only, under the name the counterexample refers to) — FALSE for the code as it is
(known finding `C08-settings-flip-within-poll-interval`, `C08_flip_between_polls_counterexample`):

    theorem C08_settings_change_pending (s : S) (hwf : WF s) (op : Op) (hop : op ≠ .cycle)
        (h : pending s = true ∨ entitlementInputs (step s op).1 ≠ entitlementInputs s) :
        pending (step s op).1 = true

The friends / block list are *polled*: a list that is changed and changed back to the value of the
last poll within one polling interval (1 s) is never announced, although requests were admitted and
cycles may have reconciled against the transient value. Proved: the statement for every op that is
not such a flip-back (`flipsBack`, a decidable predicate of the state and the op). -/

/-- A pending change stays pending under every op that is neither a cycle nor a flip-back. -/
theorem C08_pending_persists (s : S) (op : Op) (hop : op ≠ .cycle) (hnf : flipsBack s op = false)
    (h : pending s = true) : pending (step s op).1 = true :=
  pending_persists s op hop hnf h

/-- **Every op that changes anything entitlement depends on — in the settings themselves — leaves a
change pending** (the flag is set, or the next poll will set it), unless it is a flip-back. -/
theorem C08_settings_change_pending_partial (s : S) (hwf : WF s) (op : Op) (hop : op ≠ .cycle)
    (hnf : flipsBack s op = false)
    (h : pending s = true ∨ entitlementInputs (step s op).1 ≠ entitlementInputs s) :
    pending (step s op).1 = true := by
  by_cases hp : pending s = true
  · exact pending_persists s op hop hnf hp
  rcases step_flag_or_quiet s op hop with h' | hq
  · simp [pending, h']
  · -- nothing pending before and after: the settings equal the user manager's copies, which did not move
    have h := h.resolve_left hp
    refine Decidable.byContradiction fun hp' => h ?_
    simp only [pending, Bool.or_eq_true, bne_iff_ne, ne_eq, not_or, Decidable.not_not] at hp hp'
    have hfr : (step s op).1.cfg.friends = s.cfg.friends := hp'.1.2.trans (hq.seenFriends.trans hp.1.2.symm)
    have hbl : (step s op).1.cfg.blocked = s.cfg.blocked := hp'.2.trans (hq.seenBlocked.trans hp.2.symm)
    simp only [entitlementInputs, hq.index hwf, hfr, hbl]

/-- **No change of the settings is lost** (flip-backs apart): after an op that changed anything
entitlement depends on, whatever follows that is neither a cycle nor a flip-back — requests, state
changes, further changes, polls — the user manager's next poll leaves the shares-changed flag set;
the cycle this requests reconciles every upload against the configuration of that moment
(`C08_reconcile`). -/
theorem C08_change_seen_by_next_cycle_partial (s : S) (hwf : WF s) (op : Op) (mid : List Op)
    (hop : op ≠ .cycle) (hmid : ∀ o ∈ mid, o ≠ .cycle) (hnf : noFlipBack s (op :: mid) = true)
    (h : entitlementInputs (step s op).1 ≠ entitlementInputs s) :
    (run (step s op).1 (mid ++ [.poll])).sharesChanged = true := by
  simp only [noFlipBack, Bool.and_eq_true, Bool.not_eq_true'] at hnf
  rw [run_append]
  exact (C08_poll_announces _).2.2.2.2.2 (pending_persists_run mid _ hmid hnf.2
    (C08_settings_change_pending_partial s hwf op hop hnf.1 (Or.inr h)))

/-- **`load_from_settings()` makes the shared directories exactly those of the settings**: the
configured directories are the entries, every indexed item belongs to a listed directory (what the
dropped directories held is not indexed any more — nobody is `Entitled` to it, the cycle the reload
requests aborts its unfinished uploads with "File not shared", `C08_reconcile`), and the cycle is
requested unless the settings name no directory and none was shared. -/
theorem C08_reload_exact (s : S) (hwf : WF s) (es : List DirInfo) (disk : List (Shares.File Comp))
    (hn : (es.map (·.path)).Nodup) :
    (step s (.reload es disk)).1.cfg.dirs = es ∧
    (step s (.reload es disk)).1.sh.paths = es.map (·.path) ∧
    (∀ it ∈ (step s (.reload es disk)).1.sh.items, it.sd ∈ es.map (·.path)) ∧
    ((es ≠ [] ∨ ∃ p ∈ s.sh.paths, p ∉ es.map (·.path)) → (step s (.reload es disk)).1.sharesChanged = true) := by
  have hi := inv_reload s.sh (es.map (·.path)) disk hwf.sh hn
  simp only [step, hn, not_true_eq_false, if_false]
  refine ⟨trivial, hi.2, fun it hit => hi.2 ▸ hi.1.owner it hit, ?_⟩
  rintro (h | ⟨p, hp, hnp⟩)
  · simp [h]
  · have hm : p ∈ droppedBy s.sh (es.map (·.path)) := List.mem_filter.2 ⟨hp, by simpa using hnp⟩
    simp [List.ne_nil_of_mem hm]

/-- Full statement — FALSE for the code as it is (known finding, proposed:
`C08-requeue-behind-state-lock-not-reevaluated`, `C08_requeue_behind_lock_counterexample`):

    … the same without the hypothesis `hq`

An upload that SHOWS a state the cycle takes for settled — ABORTED, COMPLETE, FAILED — while its lock
is still held (the listeners are being told) and a re-queue is waiting behind that lock is looked at
before the re-queue runs, and by nobody afterwards. Proved: the statement for every other held lock.

**An upload that some condition applies to when the cycle looks at it — its user is blocked, its
file is not shared with the user any more (or the user asked for the abort) — while one of its state
methods is in flight ends, once the lock is released, ABORTED for that reason (or for the reason of an
abort that was under way or waiting: the user's), or COMPLETE / FAILED — never PAUSED, QUEUED,
INITIALIZING or UPLOADING.** Whatever call holds the lock, in whichever of its two suspension points,
and whatever calls wait behind it. -/
theorem C08_change_during_transition_partial (s : S) (hflag : s.sharesChanged = true)
    (hjob : jobWaiting s.flights = false) (k : Nat) (x : Xfer) (f : Flight)
    (hk : s.xs[k]? = some x) (hf : flightOf s.flights k = some f) (hv3 : x.state ≠ .virgin) (r : Reason)
    (hv : verdict (userBlocked s.cfg x) (fileNotShared s.cfg s.sh x) x.reason = some r)
    (hq : (x.state = .complete ∨ x.state = .failed ∨ x.state = .aborted) → ∀ c ∈ f.pendingCalls, c.m ≠ .queue) :
    ∃ x', (run s [.cycle, .endCall k]).xs[k]? = some x' ∧
      isLocked (run s [.cycle, .endCall k]).flights k = false ∧ x'.user = x.user ∧ x'.path = x.path ∧
      ((x'.state = .aborted ∧ (x'.reason = some r ∨ ∃ c ∈ f.pendingCalls, c.m = .abort ∧ x'.reason = c.r)) ∨
        x'.state = .complete ∨ x'.state = .failed) := by
  obtain ⟨h1, h2⟩ := cycle_end_locked s hflag hjob k x f hk hf
  rw [cycleOne_locked _ _ _ _ _ r (by simp [isLocked, hf]) hv] at h1
  refine ⟨_, h1, h2, ?_⟩
  by_cases hfin : x.state = .complete ∨ x.state = .failed
  · -- COMPLETE / FAILED: left alone by the cycle, every pending call is refused
    have hst : x.state = .complete ∨ x.state = .failed ∨ x.state = .aborted := hfin.elim Or.inl (fun h => Or.inr (Or.inl h))
    simp only [if_pos hfin, Option.toList_none, List.append_nil, runCalls_refused _ x.sr hst (hq hst)]
    exact ⟨rfl, rfl, Or.inr hfin⟩
  · by_cases hab : x.state = .aborted
    · -- shows ABORTED: the reason is written directly, every pending call is refused
      simp only [if_neg hfin, if_pos hab, Option.toList_none, List.append_nil,
        runCalls_refused _ (x.withSR (x.state, some r)).sr (Or.inr (Or.inr hab)) (hq (Or.inr (Or.inr hab)))]
      exact ⟨rfl, rfl, Or.inl ⟨hab, Or.inl rfl⟩⟩
    · -- a live state: `abort(reason=r)` waits for the lock and runs after everything that was pending
      simp only [if_neg hfin, if_neg hab, Option.toList_some, runCalls_append]
      exact ⟨rfl, rfl, abort_after_calls f.pendingCalls x.sr (some r) true hv3 hab⟩

/-- … and until that lock is released the upload stays as it shows, the job of that cycle waits and
the management task starts no other job (`busy_cycle_noop`): whatever changes meanwhile raises the
flag again (`C08_change_requests_cycle`) for the cycle that follows. -/
theorem C08_job_waits_for_locked_upload (s : S) (hflag : s.sharesChanged = true)
    (hjob : jobWaiting s.flights = false) (k : Nat) (x : Xfer) (f : Flight)
    (hk : s.xs[k]? = some x) (hf : flightOf s.flights k = some f) (r : Reason)
    (hv : verdict (userBlocked s.cfg x) (fileNotShared s.cfg s.sh x) x.reason = some r)
    (hlive : x.state ≠ .complete ∧ x.state ≠ .failed ∧ x.state ≠ .aborted) :
    (step s .cycle).1.xs[k]? = some x ∧ jobWaiting (step s .cycle).1.flights = true ∧
      step (step s .cycle).1 .cycle = ((step s .cycle).1, .busy) := by
  obtain ⟨hx1, hf1⟩ := cycle_locked_live s hflag hjob k x f hk hf r hv hlive
  have hw : jobWaiting (step s .cycle).1.flights = true :=
    List.any_eq_true.2 ⟨_, List.mem_of_find?_eq_some hf1, by simp⟩
  exact ⟨hx1, hw, busy_cycle_noop _ hw⟩

/-- **… whatever happens elsewhere while the lock is held**: configuration changes (they raise the
flag again), polls, scans, searches, calls on the other uploads — ordinary or suspended —, releases of
other locks, further cycle requests (the management task starts no job while this one waits) between
the cycle and the release change nothing about where the upload ends. -/
theorem C08_change_during_transition_interleaved (s : S) (hflag : s.sharesChanged = true)
    (hjob : jobWaiting s.flights = false) (k : Nat) (x : Xfer) (f : Flight)
    (hk : s.xs[k]? = some x) (hf : flightOf s.flights k = some f) (r : Reason)
    (hv : verdict (userBlocked s.cfg x) (fileNotShared s.cfg s.sh x) x.reason = some r)
    (hlive : x.state ≠ .complete ∧ x.state ≠ .failed ∧ x.state ≠ .aborted)
    (mid : List Op) (hmid : ∀ o ∈ mid, Op.leaves k o = true) :
    (run s (.cycle :: mid ++ [.endCall k])).xs[k]? = (run s [.cycle, .endCall k]).xs[k]? ∧
      isLocked (run s (.cycle :: mid ++ [.endCall k])).flights k = false := by
  obtain ⟨hx1, hf1⟩ := cycle_locked_live s hflag hjob k x f hk hf r hv hlive
  obtain ⟨hx2, hf2⟩ := run_leaves mid _ k _ _ hx1 hf1 (by simp) hmid
  rw [show run s (.cycle :: mid ++ [.endCall k]) = (step (run (step s .cycle).1 mid) (.endCall k)).1 from
    run_append s (.cycle :: mid) [.endCall k]]
  obtain ⟨a1, a2⟩ := endCall_at _ k _ _ hx2 hf2
  exact ⟨a1.trans (endCall_at _ k _ _ hx1 hf1).1.symm, a2⟩

/-- **In the property's words**: the user is blocked for uploads, or is not entitled to the file any
more, when the cycle looks at an upload that was not aborted on the user's request and has a state
method in flight — the calls in flight or waiting being the user's own (an abort carries
`Requested`). Once the lock is released the upload is ABORTED with the matching reason (Blocked
first) or on the user's request, or it has finished. -/
theorem C08_change_during_transition (s : S) (hflag : s.sharesChanged = true)
    (hjob : jobWaiting s.flights = false) (hU : UniquePaths s.cfg s.sh) (k : Nat) (x : Xfer) (f : Flight)
    (hk : s.xs[k]? = some x) (hf : flightOf s.flights k = some f) (hv3 : x.state ≠ .virgin)
    (hreq : x.reason ≠ some .requested)
    (hnp : isBlocked s.cfg x.user 32 = true ∨ ¬ Entitled s.cfg s.sh x.user x.path)
    (huser : ∀ c ∈ f.pendingCalls, c.m = .abort → c.r = some .requested)
    (hq : (x.state = .complete ∨ x.state = .failed ∨ x.state = .aborted) → ∀ c ∈ f.pendingCalls, c.m ≠ .queue) :
    ∃ x', (run s [.cycle, .endCall k]).xs[k]? = some x' ∧
      isLocked (run s [.cycle, .endCall k]).flights k = false ∧
      ((x'.state = .aborted ∧
          (x'.reason = some (if isBlocked s.cfg x.user 32 then .blocked else .notShared) ∨
            x'.reason = some .requested)) ∨
        x'.state = .complete ∨ x'.state = .failed) := by
  obtain ⟨x', h1, h2, _, _, h5⟩ := C08_change_during_transition_partial s hflag hjob k x f hk hf hv3 _
    (verdict_of_not_permitted s.cfg s.sh hU x hreq hnp) hq
  refine ⟨x', h1, h2, ?_⟩
  rcases h5 with ⟨ha, hr | ⟨c, hc, hm, hr⟩⟩ | h
  · exact Or.inl ⟨ha, Or.inl hr⟩
  · exact Or.inl ⟨ha, Or.inr (hr.trans (huser c hc hm))⟩
  · exact Or.inr h

/-- **Requested is sticky**: whatever the peers request and however often the friends list, the
block list and the shared directories change and the management cycle runs, an upload aborted on
the user's request stays ABORTED with reason Requested — until the user himself queues it again
(by an ordinary call, or one that is suspended half-way: `beginCall`); its state lock stays free,
since every other method is refused at once. -/
theorem C08_requested_sticky (ops : List Op) (s : S) (k : Nat) (x : Xfer) (hk : s.xs[k]? = some x)
    (ha : x.state = .aborted) (hr : x.reason = some .requested) (hfree : isLocked s.flights k = false)
    (hops : ∀ op ∈ ops, Op.requeues k op = false) :
    (run s ops).xs[k]? = some x ∧ isLocked (run s ops).flights k = false := by
  induction ops generalizing s with
  | nil => exact ⟨hk, hfree⟩
  | cons op ops ih =>
    obtain ⟨h1, h2⟩ := sticky_step s op k x hk ha hr hfree (hops op List.mem_cons_self)
    exact ih _ h1 h2 (fun o ho => hops o (List.mem_cons_of_mem _ ho))

/-- What does hold for `PeerDirectoryContentsReply`: nothing goes to a user blocked for shares, and
the listing holds only indexed items of exactly the requested remote directory — so it is confined to
unlocked files **provided** that directory is not locked for the asking user. -/
theorem C08_directory_listing_partial (c : Cfg) (sh : Shares.St Comp) (u : Name) (req : List Ch)
    (l : List (List Ch × List SItem)) (h : dirReply c sh u req = some l) :
    isBlocked c u 8 = false ∧
    (∀ e ∈ l, e.1 = req ∧ ∀ it ∈ e.2, it ∈ sh.items ∧ remoteDir c it = req) ∧
    ((∀ it ∈ sh.items, remoteDir c it = req → locked c it.sd u = false) →
      ∀ e ∈ l, ∀ it ∈ e.2, locked c it.sd u = false) := by
  simp only [dirReply, show dirFlag = 8 from rfl] at h
  split at h
  next => cases h
  next hb =>
    cases h
    refine ⟨by simpa using hb, fun e he => mem_directoryReply he, fun hall e he it hit => ?_⟩
    exact hall it ((mem_directoryReply he).2 it hit).1 ((mem_directoryReply he).2 it hit).2

namespace Ex
/-- 0 `a`, 1 `A`, 2 `b`, 3 `B`, 4 `.`, 5 space, 6 `*`, 7 `-` (the alphabet of `C07.Ex`) -/
def K : Query.Cls Ch where
  isWord c := c < 4
  fold c := if c = 1 then 0 else if c = 3 then 2 else c
  isSpace c := c = 5
  star := 6
  dash := 7

/-- folders `m` (friends only, alias `a`) and `n` (everyone, alias `b`); files `m/aB.b`, `m/b/A.a`, `n/bB.b` -/
def disk : List (Shares.File Comp) := [⟨[[0]], [0, 3, 4, 2]⟩, ⟨[[0], [2]], [1, 4, 0]⟩, ⟨[[2]], [2, 3, 4, 2]⟩]
def dm : DirInfo := { path := [[0]], alias := [0], mode := .friends }
def dn : DirInfo := { path := [[2]], alias := [2], mode := .everyone }
def s0 : S := { cls := K }
/-- remote path of `m/aB.b` : `@@a\aB.b` -/
def pm : List Ch := [64, 64, 0, 92, 0, 3, 4, 2]
/-- remote path of `n/bB.b` : `@@b\bB.b` -/
def pn : List Ch := [64, 64, 2, 92, 2, 3, 4, 2]

/-- user 1 is a friend, user 2 is not; both ask for the friends-only file, 2 also for the public one -/
def setup : List Op := [.setFriends [1], .share dm disk, .share dn disk, .cycle,
  .queueReq 1 pm, .queueReq 2 pm, .xferReq 2 pn]
end Ex

/-- **The listing of a friends-only directory is sent to a user who is not a friend** (witness
replayed on the real code on every run: known finding `C08-directory-reply-ignores-lock`). -/
theorem C08_directory_listing_counterexample :
    ∃ (c : Cfg) (sh : Shares.St Comp) (u : Name) (req : List Ch) (l : List (List Ch × List SItem)),
      dirReply c sh u req = some l ∧ ∃ e ∈ l, ∃ it ∈ e.2, locked c it.sd u = true :=
  ⟨(run Ex.s0 Ex.setup).cfg, (run Ex.s0 Ex.setup).sh, 2, [64, 64, 0, 92, 2],
    [([64, 64, 0, 92, 2], [⟨[[0]], [[2]], [1, 4, 0]⟩])], by decide +kernel, _, List.mem_singleton.2 rfl, _,
    List.mem_singleton.2 rfl, by decide +kernel⟩

namespace Ex
/-- the friends-only folder `m` and the public folder `n` are shared, nobody is a friend; user 1 is
made a friend, asks for the friends-only file `m/aB.b` (admitted: he is entitled at that moment) … -/
def excursion : List Op := [.share dm disk, .share dn disk, .cycle, .mutFriends [1], .queueReq 1 pm]
end Ex

/-- **… and is taken off the friends list again before the user manager's next poll**: the op changes
what entitlement depends on and leaves nothing pending (the negation of the full statement
`C08_settings_change_pending`, on exactly the class `flipsBack` excludes); the poll finds the list as
it last saw it, no cycle is requested, and the upload stays QUEUED for a user the file is not shared
with (witness replayed on the real code: known finding `C08-settings-flip-within-poll-interval`). -/
theorem C08_flip_between_polls_counterexample :
    ∃ (s : S) (op : Op), WF s ∧ op ≠ .cycle ∧ flipsBack s op = true ∧
      entitlementInputs (step s op).1 ≠ entitlementInputs s ∧ pending (step s op).1 = false ∧
      (run (step s op).1 [.poll, .cycle]).xs = [⟨1, Ex.pm, .queued, none⟩] ∧
      findShared (run (step s op).1 [.poll, .cycle]).cfg (run (step s op).1 [.poll, .cycle]).sh 1 Ex.pm = none :=
  -- the five conjuncts after `op ≠ .cycle` are evaluated on the witness
  ⟨run Ex.s0 Ex.excursion, .mutFriends [], wf_run _ _ (wf_init _ rfl rfl), fun h => Op.noConfusion h,
    by decide +kernel, by decide +kernel, by decide +kernel, by decide +kernel, by decide +kernel⟩

namespace ExLock
open Ex
/-- the user aborts the friend's upload — the abort is through but for its listeners (the upload shows
ABORTED / Requested, its lock is held) — and queues it again at once (the call waits for the lock);
the friend is taken off the friends list; the cycle looks at the upload: aborted on the user's
request, nothing to do; the listeners return, the re-queue runs -/
def stale : List Op := [.beginCall 0 { m := .abort, r := some .requested } .notifying, .userQueue 0,
  .setFriends [], .cycle, .endCall 0]
end ExLock

/-- **… and the upload is QUEUED for a user the file is not shared with, no lock is held, no cycle is
requested: nobody will look at it again** (the negation of `C08_change_during_transition_partial`
without `hq`, on exactly the class `hq` excludes; witness replayed on the real code while the
finding is listed). -/
theorem C08_requeue_behind_lock_counterexample (hcode : relookWhenLocked = false) :
    ∃ (s : S) (k : Nat) (x : Xfer) (f : Flight) (r : Reason),
      s.sharesChanged = true ∧ jobWaiting s.flights = false ∧ s.xs[k]? = some x ∧
      flightOf s.flights k = some f ∧ x.state = .aborted ∧
      verdict (userBlocked s.cfg x) (fileNotShared s.cfg s.sh x) x.reason = some r ∧
      (∃ c ∈ f.pendingCalls, c.m = .queue) ∧
      (run s [.cycle, .endCall k]).xs[k]? = some ⟨1, Ex.pm, .queued, none⟩ ∧
      findShared (run s [.cycle, .endCall k]).cfg (run s [.cycle, .endCall k]).sh 1 Ex.pm = none ∧
      (run s [.cycle, .endCall k]).flights = [] ∧ (run s [.cycle, .endCall k]).sharesChanged = false := by
  refine ⟨run Ex.s0 (Ex.setup ++ ExLock.stale.take 3), 0, ⟨1, Ex.pm, .aborted, some .requested⟩,
    { k := 0, call := { m := .abort, r := some .requested }, phase := .notifying, waiters := [{ m := .queue }] },
    .requested, ?_⟩
  -- every conjunct but the last is evaluated on the witness
  refine ⟨by decide, by decide, by decide, by decide, rfl, by decide,
    ⟨{ m := .queue }, by decide, rfl⟩, by decide, by decide, by decide, ?_⟩
  -- the one conjunct that depends on which code is modelled: the release leaves the flag as the cycle left it
  rw [show ∀ s : S, (run s [.cycle, .endCall 0]).sharesChanged = (step s .cycle).1.sharesChanged from fun _ => rfl,
    cycle_runs _ (by decide) (by decide), hcode]
  rfl

/-! ### … repaired by `fixes/C08-relook-after-state-lock.patch` (`relookWhenLocked = true`)

With the patch `manage_shares_changed` asks for another shares cycle whenever it meets an upload whose
state lock is held. The flag then survives every cycle that still meets a held lock, so the first
cycle that finds every lock free runs with the flag set and `C08_reconcile` applies to ALL uploads —
also to the one a waiting call changed after an earlier cycle had looked. -/

/-- the cycles of `ops` that actually run a job all meet a held state lock -/
def cyclesMeetLocks (s : S) : List Op → Bool
  | [] => true
  | .cycle :: l => (jobWaiting s.flights || !s.flights.isEmpty) && cyclesMeetLocks (step s .cycle).1 l
  | o :: l => cyclesMeetLocks (step s o).1 l

/-- **(patched code) No change is lost behind a state lock**: once a change is announced, the flag
stays set through everything — further ops of any kind, busy cycle requests, cycles that run while
some state lock is held — until a cycle runs with no lock held; that cycle reconciles every upload
against the configuration of that moment (`C08_reconcile`, `C08_reconcile_no_lock`). -/
theorem C08_relook_until_unlocked (hcode : relookWhenLocked = true) (ops : List Op) (s : S)
    (hflag : s.sharesChanged = true) (hops : cyclesMeetLocks s ops = true) :
    (run s ops).sharesChanged = true := by
  induction ops generalizing s with
  | nil => exact hflag
  | cons op ops ih =>
    rw [show run s (op :: ops) = run (step s op).1 ops from rfl]
    by_cases hop : op = .cycle
    · subst hop
      simp only [cyclesMeetLocks, Bool.and_eq_true, Bool.or_eq_true, Bool.not_eq_true'] at hops
      refine ih _ ?_ hops.2
      by_cases hj : jobWaiting s.flights = true
      · rw [busy_cycle_noop s hj]; exact hflag
      · rw [cycle_runs s hflag (by simpa using hj)]
        simp [hcode, hops.1.resolve_left hj]
    · refine ih _ (flag_persists s op hop hflag) ?_
      -- `cyclesMeetLocks` passes over a constructor other than `.cycle` (its third equation)
      cases op with
      | cycle => exact absurd rfl hop
      | _ => exact hops

/-- (patched code) … on the witness of the finding: after the re-queue has run the flag is still
set, and the next cycle aborts the upload for "File not shared" -/
theorem C08_requeue_behind_lock_repaired (hcode : relookWhenLocked = true) :
    (run Ex.s0 (Ex.setup ++ ExLock.stale)).sharesChanged = true ∧
    (run Ex.s0 (Ex.setup ++ ExLock.stale ++ [.cycle])).xs[0]? = some ⟨1, Ex.pm, .aborted, some .notShared⟩ := by
  have hflag : (run Ex.s0 (Ex.setup ++ ExLock.stale)).sharesChanged = true :=
    C08_relook_until_unlocked hcode [.cycle, .endCall 0] (run Ex.s0 (Ex.setup ++ ExLock.stale.take 3))
      (by decide +kernel) (by decide +kernel)
  refine ⟨hflag, ?_⟩
  -- no lock is held any more: the next cycle is the plain map
  rw [run_append, show run _ [.cycle] = (step _ .cycle).1 from rfl,
    (C08_reconcile_no_lock _ hflag (by decide +kernel)).1]
  decide +kernel

/-! ## Non-vacuity -/

namespace Ex
/-- every state the examples reach is well-formed (hypothesis `WF` of the change theorems) -/
example : WF (run s0 setup) := wf_run _ _ (wf_init _ rfl rfl)
/-- **a directory dropped from the settings while the other one stays as it is** (`[dm]` reloaded,
`n` is gone): the reload requests a cycle, the cycle aborts the upload out of the dropped directory -/
example : (run s0 (setup ++ [.reload [dm] disk])).sharesChanged = true := by decide +kernel
example : (run s0 (setup ++ [.reload [dm] disk, .cycle])).xs =
    [⟨1, pm, .queued, none⟩, ⟨2, pn, .aborted, some .notShared⟩] := by decide +kernel
/-- every directory dropped: announced as well (after `fixes/C08-reload-announces-removed.patch`) -/
example : (run s0 (setup ++ [.reload [] disk])).sharesChanged = true := by decide +kernel
example : (run s0 (setup ++ [.reload [] disk, .cycle])).xs =
    [⟨1, pm, .aborted, some .notShared⟩, ⟨2, pn, .aborted, some .notShared⟩] := by decide +kernel
/-- `m` becomes a named-users directory for users 1 and 2, then user 1 is taken off its users list
(in the settings, in place or not) and the settings are reloaded: aborted, and queued again when he
is put back -/
example : (run s0 (setup ++ [.reload [{ dm with mode := .users [1, 2] }, dn] disk, .cycle,
      .reload [{ dm with mode := .users [2] }, dn] disk, .cycle])).xs =
    [⟨1, pm, .aborted, some .notShared⟩, ⟨2, pn, .queued, none⟩] := by decide +kernel
example : (run s0 (setup ++ [.reload [{ dm with mode := .users [1, 2] }, dn] disk, .cycle,
      .reload [{ dm with mode := .users [2] }, dn] disk, .cycle,
      .reload [{ dm with mode := .users [1, 2] }, dn] disk, .cycle])).xs =
    [⟨1, pm, .queued, none⟩, ⟨2, pn, .queued, none⟩] := by decide +kernel
/-- user 1 is taken off `settings.users.friends` (in place): pending but not announced until the
user manager polls; the poll sets the flag, the cycle aborts his upload -/
example : pending (run s0 (setup ++ [.mutFriends []])) = true ∧
    (run s0 (setup ++ [.mutFriends []])).sharesChanged = false := by decide +kernel
example : (run s0 (setup ++ [.mutFriends [], .cycle])).xs = (run s0 setup).xs := by decide +kernel
example : (run s0 (setup ++ [.mutFriends [], .queueReq 2 pn, .poll])).sharesChanged = true := by decide +kernel
example : (run s0 (setup ++ [.mutFriends [], .poll, .cycle])).xs =
    [⟨1, pm, .aborted, some .notShared⟩, ⟨2, pn, .queued, none⟩] := by decide +kernel
example : noFlipBack (run s0 setup) [.mutFriends [], .queueReq 2 pn, .mutBlocked [(2, 32)]] = true := by decide +kernel
/-- admission: the friend's upload exists, the stranger's request for the locked file created
nothing, his request for the public file did -/
example : (run s0 setup).xs = [⟨1, pm, .queued, none⟩, ⟨2, pn, .queued, none⟩] := by decide +kernel
example : onQueue (run s0 (setup.take 5)).cfg (run s0 (setup.take 5)).sh (run s0 (setup.take 5)).xs 2 pm =
    ([⟨1, pm, .queued, none⟩], some .notShared) := by decide +kernel
/-- case variant of a shared path (`@@a\AB.b`): refused, nothing created -/
example : (onQueue (run s0 setup).cfg (run s0 setup).sh [] 1 [64, 64, 0, 92, 1, 3, 4, 2]) = ([], some .notShared) := by decide +kernel
example : ((run s0 setup).sh.items.map (remotePath (run s0 setup).cfg)).Nodup := by decide +kernel
example : UniquePaths (run s0 setup).cfg (run s0 setup).sh := by unfold UniquePaths; decide +kernel
/-- un-friending user 1 and blocking user 2 for uploads: after the cycle both are ABORTED, with
"File not shared" and "Blocked"; undoing both queues them again; a user abort in between stays -/
example : (run s0 (setup ++ [.setFriends [], .setBlocked [(2, 32)], .cycle])).xs =
    [⟨1, pm, .aborted, some .notShared⟩, ⟨2, pn, .aborted, some .blocked⟩] := by decide +kernel
example : (run s0 (setup ++ [.setFriends [], .setBlocked [(2, 32)], .cycle, .setFriends [1], .setBlocked [], .cycle])).xs =
    [⟨1, pm, .queued, none⟩, ⟨2, pn, .queued, none⟩] := by decide +kernel
example : (run s0 (setup ++ [.userAbort 0, .setFriends [], .cycle, .setFriends [1], .queueReq 1 pm, .cycle])).xs =
    [⟨1, pm, .aborted, some .requested⟩, ⟨2, pn, .queued, none⟩] := by decide +kernel
/-- user 1 is blocked, the cycle this asks for starts (snapshot, clear, reconcile); while its job is still
running user 2 is blocked too: the flag is set again and the next cycle aborts the second upload -/
example : (run s0 (setup ++ [.setBlocked [(1, 32)], .cycle, .setBlocked [(1, 32), (2, 32)]])).sharesChanged = true := by
  decide +kernel
example : (run s0 (setup ++ [.setBlocked [(1, 32)], .cycle, .setBlocked [(1, 32), (2, 32)], .cycle])).xs =
    [⟨1, pm, .aborted, some .blocked⟩, ⟨2, pn, .aborted, some .blocked⟩] := by decide +kernel
/-- **a block while the upload is being paused**: the friend's upload is being sent; the user pauses
it — `pause()` waits for the upload's task, which is closing its file connection — and blocks the
friend in the same breath -/
def pausing : List Op := setup ++ [.meth 0 .initialize, .meth 0 .start,
  .beginCall 0 { m := .pause } .cancelling, .setBlocked [(1, 32)]]
example : (run s0 pausing).xs[0]? = some ⟨1, pm, .uploading, none⟩ ∧ isLocked (run s0 pausing).flights 0 = true ∧
    (run s0 pausing).sharesChanged = true ∧ jobWaiting (run s0 pausing).flights = false := by decide +kernel
/-- (the hypotheses of `C08_change_during_transition_partial` / `_interleaved` in this state) -/
example : verdict (userBlocked (run s0 pausing).cfg ⟨1, pm, .uploading, none⟩)
    (fileNotShared (run s0 pausing).cfg (run s0 pausing).sh ⟨1, pm, .uploading, none⟩) none = some .blocked := by decide +kernel
/-- the cycle finds the lock held: the upload stays as it shows, the abort waits and the job with it -/
example : (run s0 (pausing ++ [.cycle])).xs[0]? = some ⟨1, pm, .uploading, none⟩ ∧
    jobWaiting (run s0 (pausing ++ [.cycle])).flights = true ∧
    (run s0 (pausing ++ [.cycle])).sharesChanged = relookWhenLocked := by decide +kernel
/-- the connection is closed: PAUSED, and at once ABORTED / Blocked -/
example : (run s0 (pausing ++ [.cycle, .endCall 0])).xs[0]? = some ⟨1, pm, .aborted, some .blocked⟩ ∧
    (run s0 (pausing ++ [.cycle, .endCall 0])).flights = [] := by decide +kernel
/-- meanwhile another cycle request (busy), the other upload paused, the friends list changed: the
upload ends the same way, the new change is waiting for the next cycle -/
example : (run s0 (pausing ++ [.cycle, .cycle, .meth 1 .pause, .setFriends [], .endCall 0])).xs[0]? =
      some ⟨1, pm, .aborted, some .blocked⟩ ∧
    (run s0 (pausing ++ [.cycle, .cycle, .meth 1 .pause, .setFriends [], .endCall 0])).sharesChanged = true := by
  decide +kernel
/-- the user's own abort under way instead of the pause: it wins, ABORTED / Requested -/
example : (run s0 (setup ++ [.meth 0 .initialize, .beginCall 0 { m := .abort, r := some .requested } .cancelling,
      .setBlocked [(1, 32)], .cycle, .endCall 0])).xs[0]? = some ⟨1, pm, .aborted, some .requested⟩ := by decide +kernel
/-- a `fail` of the upload's task waiting behind the pause: the upload has FAILED when the cycle's abort
gets its turn (refused) -/
example : (run s0 (pausing ++ [.meth 0 .fail, .cycle, .endCall 0])).xs[0]? = some ⟨1, pm, .failed, none⟩ := by decide +kernel
/-- suspended in the transition instead (the listeners are told, the upload shows PAUSED already) -/
example : (run s0 (setup ++ [.beginCall 0 { m := .pause } .notifying, .setFriends [], .cycle])).xs[0]? =
      some ⟨1, pm, .paused, none⟩ ∧
    (run s0 (setup ++ [.beginCall 0 { m := .pause } .notifying, .setFriends [], .cycle, .endCall 0])).xs[0]? =
      some ⟨1, pm, .aborted, some .notShared⟩ := by decide +kernel
/-- search: `*b` by the stranger: the public file is a normal result, the two friends-only files
are locked results; with the phrase `AB` (upper case) excluded, `m/aB.b` is in neither part
(`m/b/A.a`, whose path does not contain `ab`, stays) -/
example : searchReply K (run s0 setup).cfg (run s0 setup).sh 2 [6, 2] =
    some ([⟨[[2]], [], [2, 3, 4, 2]⟩], [⟨[[0]], [], [0, 3, 4, 2]⟩, ⟨[[0]], [[2]], [1, 4, 0]⟩]) := by decide +kernel
example : searchReply K (run s0 (setup ++ [.phrases [[1, 3]]])).cfg (run s0 setup).sh 2 [6, 2] =
    some ([⟨[[2]], [], [2, 3, 4, 2]⟩], [⟨[[0]], [[2]], [1, 4, 0]⟩]) := by decide +kernel
example : searchReply K (run s0 (setup ++ [.setBlocked [(2, 4)]])).cfg (run s0 setup).sh 2 [6, 2] = none := by decide +kernel
end Ex

end AioslskVerif.C08
