import AioslskVerif.Proofs.TrackWorld
/-!
# C15 — user tracking on the server mirrors the set of reasons to track

Property theorems only (model: `Model/Track.lean` = the code **with** `fixes/C15-lost-call-in-exit-window.patch`,
`fixes/C15-swallowed-cancel-on-close.patch`, `fixes/C15-transfer-reason-kept-after-remove.patch` and
`fixes/C15-stale-retry-after-retrack.patch`; helpers: `Proofs/Track.lean`, `Proofs/TrackLog.lean`,
`Proofs/TrackWorld.lean`).

Every theorem quantifies over **all** op lists `ops` from the initial state, i.e. over every interleaving of
calls (`track`/`untrack`, any user, any flags), worker steps with any network behaviour (`workerStep u env`),
retry timers firing (never early), done-callbacks (`reap`), server closes and clock advances. Histories
(`issued`, `processed`, `frames`, …) are per user and start again at every server close.
The second half (`World`) adds the owners of the reasons — logins, the friends list, the transfer manager's
cycles and transfers — and proves that what the tracking manager is asked for is what can be observed from
outside, in particular again after a session loss. A `TransferManager.remove` is three steps there
(`trmStart`, `trmDrop`, `trmEnd`): whatever the manager is asked meanwhile — other removals of the same user's
transfers, additions, cycles — comes in between.
Time unit: tick = 1/1024 s.
-/
namespace AioslskVerif.C15
open AioslskVerif.Track AioslskVerif.Generated.Track

/-- **No call is ever lost.** In every reachable state the requests already applied by the worker followed
by the requests still queued are exactly the requests made, in order. (On the pinned code a request put on
the queue of a worker that has returned but whose done-callback has not run is in neither list.) -/
theorem C15_no_lost_op (ops : List Op) (u : Nat) :
    let U := (run State.init ops).users u
    U.processed ++ U.queue = U.issued :=
  (inv_reach ops u).lost

/-- the done-callback of a finished worker never removes a live entry (the identity check of
`fixes/C15-lost-call-in-exit-window.patch`) -/
theorem C15_reap_harmless (ops : List Op) (u g : Nat) :
    let s := run State.init ops
    ((step s (.reap u g)).users u).entry = (s.users u).entry := by
  intro s
  show (if u = u then (s.users u).reap g else s.users u).entry = _
  rw [if_pos rfl, reap_of_inv (inv_reach ops u)]
  split <;> rfl

/-- what one request must put on the wire, by cases: RemoveUser exactly on non-empty→empty, AddUser exactly
on empty→non-empty, nothing otherwise -/
theorem C15_edge_cases (f : Flags) (r : Req) :
    (f ≠ Flags.empty → r.apply f = Flags.empty → edge f r = [.removeUser]) ∧
    (f = Flags.empty → r.apply f ≠ Flags.empty → edge f r = [.addUser]) ∧
    (f = Flags.empty → r.apply f = Flags.empty → edge f r = []) ∧
    (f ≠ Flags.empty → r.apply f ≠ Flags.empty → edge f r = []) :=
  ⟨edge_of_withdrawn, edge_of_first, fun h1 h2 => edge_of_same (iff_of_true h1 h2),
    fun h1 h2 => edge_of_same (iff_of_false h1 h2)⟩

/-- **Edges.** The AddUser/RemoveUser attempts made — the repetitions of an AddUser (its retries, justified by
`C15_attempts_justified`) left out — are exactly the edge-triggered fold (`specFrames`: one `edge` per
request) of the requests the worker has applied, and the reasons it holds are their fold; once nothing is
queued both equal the fold of **all** requests made (in issue order; a retry request changes no reason). -/
theorem C15_edges (ops : List Op) (u : Nat) :
    let U := (run State.init ops).users u
    collapse U.frames = specFrames U.processed ∧ U.flagsOf = specFlags U.processed ∧
    (U.queue = [] → collapse U.frames = specFrames U.issued ∧ U.flagsOf = specFlags U.issued) :=
  have h := inv_reach ops u
  ⟨h.frames, h.flags, fun hq => h.caughtUp hq ▸ ⟨h.frames, h.flags⟩⟩

/-- **…and never otherwise.** The log of what happened on the wire for a user (attempts and how they ended) is
the attempts made, and every event in it may follow its predecessor (`Ev.okAfter`): an AddUser is attempted
first of all, directly after a RemoveUser, or directly after a FAILED attempt — then not before the documented
delay for that kind of failure is over; it is never repeated after an attempt that was answered "exists" or is
still unanswered, whatever was queued behind whatever (on the pinned code a retry request queued behind an
untrack + track pair re-sent AddUser to a user that was tracked again). A RemoveUser only follows an answered
attempt, an answer only its attempt. -/
theorem C15_attempts_justified (ops : List Op) (u : Nat) :
    let U := (run State.init ops).users u
    Justified U.log = true ∧ framesOf U.log = U.frames :=
  ⟨(inv_reach ops u).logJ, (inv_reach ops u).logF⟩

/-- the cases of `Ev.okAfter` spelled out for an AddUser attempt made at tick `t` -/
theorem C15_add_follows (t : Nat) (prev : Option Ev) :
    (Ev.add t).okAfter prev = true ↔
      (prev = none ∨ prev = some .remove ∨ ∃ due, prev = some (.fail due) ∧ due ≤ t) := by
  cases prev with
  | none => simp [Ev.okAfter]
  | some e => cases e <;> simp [Ev.okAfter]

/-- a failed attempt is logged with the instant its documented delay is over: now + 10 s (send error, no
answer, error) or now + 600 s (user does not exist) -/
theorem C15_fail_logged (U : User) (e : Entry) (now : Nat) (o : Outcome) (delay : Nat) :
    (U.failAttempt e now o delay).log = U.log ++ [.fail (now + delay * 1024)] := rfl

/-- **A retry that was called off stays called off.** A retry request counts only while it is the pending one
(`fixes/C15-stale-retry-after-retrack.patch`): when the worker takes a request made by a retry task that is not the pending retry — the reasons were
withdrawn after the timer fired and came back, or a newer attempt failed — while reasons stand, nothing is
sent and neither the state nor the reasons change. -/
theorem C15_stale_retry_ignored (U : User) (now : Nat) (env : Env) (e : Entry) (q : List Req) (k : Nat)
    (he : U.entry = some e) (hpc : e.pc = .idle) (hq : e.queue = retryReq k :: q)
    (hk : e.live ≠ some k) (hf : e.flags ≠ Flags.empty) :
    (U.worker now env).frames = U.frames ∧ (U.worker now env).log = U.log ∧
    (U.worker now env).stateOf = U.stateOf ∧ (U.worker now env).flagsOf = U.flagsOf := by
  have hh : e.honours (retryReq k) = false := by
    unfold Entry.honours retryReq
    simp only [beq_eq_false_iff_ne, ne_eq]
    exact hk
  have ha : (retryReq k).apply e.flags = e.flags := by simp [retryReq, Req.apply]
  unfold User.worker
  simp only [he, hpc, hq]
  unfold User.take
  simp [hh, ha, hf, User.stateOf, User.flagsOf, he]

/-- the pending retry, in every reachable state: its request is only remembered while the worker waits for
requests in state `retry_pending` with reasons standing, no other retry task sleeps, and the last thing that
happened on the wire is the failed attempt it belongs to, whose documented delay is over -/
theorem C15_pending_retry (ops : List Op) (u : Nat) :
    let s := run State.init ops
    let U := s.users u
    ∀ e k, U.entry = some e → e.live = some k →
      e.flags ≠ Flags.empty ∧ e.pc = .idle ∧ e.retry = none ∧ e.state = .retryPending ∧
      ∃ due, U.log.getLast? = some (.fail due) ∧ due ≤ s.now := by
  intro s U e k he hk
  exact ((inv_reach ops u).ctl he).live hk

/-- **State.** When the user is quiescent (nothing queued, worker waiting for requests, or no entry) the
reported state is `tracked` exactly when the reasons — the fold of all requests made — are non-empty and the
last answer to an AddUser attempt said the user exists; it is `untracked` exactly when they are empty. -/
theorem C15_state_iff (ops : List Op) (u : Nat) :
    let U := (run State.init ops).users u
    U.Quiescent →
      U.flagsOf = specFlags U.issued ∧
      (U.stateOf = .tracked ↔ U.flagsOf ≠ Flags.empty ∧ U.outcomes.getLast? = some .exists) ∧
      (U.stateOf = .untracked ↔ U.flagsOf = Flags.empty) := by
  intro U hq
  have h : UInv _ U := inv_reach ops u
  unfold User.flagsOf User.stateOf
  cases he : U.entry with
  | none =>
    have w : Hist U.processed [] U.issued Flags.empty U.frames U.log := (h.withEntry he).hist
    exact ⟨by rw [← w.lost, List.append_nil]; exact w.flags, iff_of_false nofun (fun h => h.1 rfl),
      iff_of_true rfl rfl⟩
  | some e =>
    obtain ⟨g, fl, st, qu, pc, rt, lv⟩ := e
    obtain ⟨rfl, rfl⟩ : pc = .idle ∧ qu = [] := by unfold User.Quiescent at hq; rw [he] at hq; exact hq
    have w : Hist U.processed [] U.issued fl U.frames U.log := (h.withEntry he).hist
    refine ⟨by rw [← w.lost, List.append_nil]; exact w.flags, ?_⟩
    cases h.ctl he with
    | unasked => exact ⟨iff_of_false nofun (fun h => h.1 rfl), iff_of_true rfl rfl⟩
    | tracked hf _ ho => exact ⟨iff_of_true rfl ⟨hf, ho⟩, iff_of_false nofun hf⟩
    | armed hf ho | fired hf ho => exact ⟨iff_of_false nofun (fun h => ho h.2), iff_of_false nofun hf⟩

/-- the documented delays (DESIGN.md C15 reading): 10 s after a network error or no answer within 10 s,
600 s after "user does not exist" — pinned against the constants regenerated from the source -/
theorem C15_documented_delays :
    delaySendFail = 10 ∧ delayTimeout = 10 ∧ delayError = 10 ∧ delayNotExists = 600 ∧ responseTimeout = 10 ∧
    retryNetError = 10 ∧ retryNonExisting = 600 := by
  decide

/-- **Retries only while a reason remains.** In every reachable state a sleeping retry task implies a
non-empty set of reasons, was started in the past with one of the documented delays, and the number of retry
timers that have fired or are pending never exceeds the number of failed attempts; a network call in flight
for AddUser implies a non-empty set of reasons, one for RemoveUser implies an empty one, no retry task and no
pending retry request. -/
theorem C15_retry_only_while_reason (ops : List Op) (u : Nat) :
    let s := run State.init ops
    let U := s.users u
    (∀ e t, U.entry = some e → e.retry = some t →
        e.flags ≠ Flags.empty ∧ t.armedAt ≤ s.now ∧ (t.delay = 10 ∨ t.delay = 600)) ∧
    U.fired + U.pending ≤ U.failed ∧
    (∀ e, U.entry = some e → (e.pc = .sendAdd ∨ ∃ d, e.pc = .waitResp d) → e.flags ≠ Flags.empty) ∧
    (∀ e, U.entry = some e → e.pc = .sendRemove → e.flags = Flags.empty ∧ e.retry = none ∧ e.live = none) := by
  intro s U
  have h : UInv s.now U := inv_reach ops u
  refine ⟨fun e t he ht => ?_, h.count, fun e he hpc => (h.pcAdd e he hpc).1, fun e he hpc => ?_⟩
  · have := h.retry e t he ht
    rw [C15_documented_delays.2.2.2.2.2.1, C15_documented_delays.2.2.2.2.2.2] at this
    exact ⟨this.1, this.2.1, this.2.2.1⟩
  · have := h.pcRem e he hpc
    exact ⟨this.1, this.2.1, this.2.2.1⟩

/-- the requests made by retry tasks among the requests made are exactly the timer firings — hence at most as
many as failed attempts (whatever flags the calls carry: a retry request is known by its identity) -/
theorem C15_retries_from_timers (ops : List Op) (u : Nat) :
    let U := (run State.init ops).users u
    (U.issued.filter Req.isRetry).length = U.fired ∧ U.fired ≤ U.failed :=
  ⟨rinv_reach ops u, Nat.le_trans (Nat.le_add_right _ _) (inv_reach ops u).count⟩

/-- a worker step that starts a retry task is a failed attempt, and the task sleeps the documented delay
for that kind of failure, counted from now -/
theorem C15_retry_delay (U : User) (now : Nat) (env : Env) (e e' : Entry) (t : Timer)
    (he : U.entry = some e) (he' : (U.worker now env).entry = some e') (ht : e'.retry = some t)
    (hnew : e.retry ≠ some t) :
    t.armedAt = now ∧
    (((env = .sendFail ∨ env = .timeout ∨ env = .error) ∧ t.delay = 10) ∨ (env = .notExists ∧ t.delay = 600)) := by
  obtain ⟨d1, d2, d3, d4, _⟩ := C15_documented_delays
  rcases worker_retry he he' with h | h | ⟨o, d, hk, h⟩
  · cases h.symm.trans ht
  · exact absurd (h.symm.trans ht) hnew
  · cases h.symm.trans ht
    refine ⟨rfl, ?_⟩
    cases hk with
    | sendFail => exact Or.inl ⟨Or.inl rfl, d1⟩
    | notExists => exact Or.inr ⟨rfl, d4⟩
    | error => exact Or.inl ⟨Or.inr (Or.inr rfl), d3⟩
    | timeout => exact Or.inl ⟨Or.inr (Or.inl rfl), d2⟩

/-- a retry request is only ever enqueued by a retry task whose sleep is over -/
theorem C15_retry_not_early (U : User) (now : Nat) (h : (U.retryFires now).issued ≠ U.issued) :
    ∃ e t, U.entry = some e ∧ e.retry = some t ∧ t.armedAt + t.delay * 1024 ≤ now := by
  exact retryFires_cases (motive := fun U' => U'.issued ≠ U.issued → _) U now (fun h => (h rfl).elim)
    (fun e t he ht hd _ => ⟨e, t, he, ht, hd⟩) h

/-- **Everything is dropped when the server connection closes**: from any reachable state, after the close
and any further ops that are not calls (worker steps, timers, callbacks, more closes, time), no user has an
entry, flags or state, and no request was or will be sent. -/
theorem C15_drop_on_close (ops after : List Op) (hafter : ∀ op ∈ after, op.isCall = false) (u : Nat) :
    let U := (run State.init (ops ++ [.serverClosed] ++ after)).users u
    U.entry = none ∧ U.flagsOf = Flags.empty ∧ U.stateOf = .untracked ∧ U.frames = [] ∧ U.issued = [] := by
  intro U
  have hd : Dropped U := dropped_after_close ops after hafter u
  exact ⟨hd.1, by simp [User.flagsOf, hd.1], by simp [User.stateOf, hd.1], hd.2.2.2.1, hd.2.1⟩

/-- **The wire mirrors the reasons.** In every reachable state the last AddUser/RemoveUser attempt made for a
user is an AddUser exactly when the reasons the worker holds for that user are non-empty (nothing was ever
attempted, or the last attempt was a RemoveUser, exactly when they are empty). -/
theorem C15_wire_mirrors (ops : List Op) (u : Nat) :
    let U := (run State.init ops).users u
    U.frames.getLast? = some .addUser ↔ U.flagsOf ≠ Flags.empty :=
  (inv_reach ops u).wire

/-! ### Session loss and re-derivation: the owners of the reasons (`World`, `WOp` in `Model/Track.lean`)

World histories `wops : List WOp` interleave, in any order: everything above (`.base op`: application calls,
worker steps, timers, the clock, **server closes**), logins, management cycles of the transfer manager, changes
of the friends list and of the transfers (add / finish / queue again / remove). The only hypothesis is
`appOk`: the application itself only ever names REQUESTED (FRIEND and TRANSFER belong to their owners).
`reasons s u` is `R_u`: the fold of every request made for u since the last close. -/

/-- every world history is a history of the tracking manager: all theorems above hold in the world -/
theorem C15_world_is_history (wops : List WOp) :
    ∃ ops, (wrun World.init wops).t = run State.init ops :=
  wrun_is_run wops

/-- **TRANSFER = "has an unfinished transfer".** After a management cycle — until the transfers change or
the server connection closes — the TRANSFER reason of *every* user is set exactly when the user has an
unfinished transfer; and at all times a user without any transfer does not carry it (needs
`fixes/C15-transfer-reason-kept-after-remove.patch`) — a user whose transfer a `remove()` in progress has taken
off the list and who is about to be asked about (`RemovalPending`) excepted, for as long as that takes. A close
clears `cycleRan`: the reason is gone with everything else and is back after the next cycle, whatever happened
in between. -/
theorem C15_transfer_reason (wops : List WOp) (hops : ∀ op ∈ wops, op.appOk = true) (u : Nat) :
    let w := wrun World.init wops
    (w.cycleRan = true → ¬ w.RemovalPending u → (reasons w.t u).tr = decide (w.HasUnfinished u)) ∧
    (¬ w.HasXfer u → ¬ w.RemovalPending u → (reasons w.t u).tr = false) := by
  intro w
  have h := winv_reach wops hops
  exact ⟨fun hc hp => (h.trSync hc u).resolve_right fun hr => hp hr.1, fun hx hp => (h.trNone u hx).resolve_left hp⟩

/-- **Removals that overlap withdraw the reason all the same.** `remove()` waits in the middle (abort, the
cancelled tasks, the listeners): removals of several transfers of one user may be in progress at once, transfers
may be added and cycles may run meanwhile — in any order of their steps. Once no removal is in progress, a user
without any transfer does not carry TRANSFER (each removal asks "any transfer of that user left?" at its end,
not at its beginning: the last one to end sees none). -/
theorem C15_removals_withdraw (wops : List WOp) (hops : ∀ op ∈ wops, op.appOk = true) (u : Nat) :
    let w := wrun World.init wops
    w.rm = [] → ¬ w.HasXfer u → (reasons w.t u).tr = false := by
  intro w hrm hx
  exact (C15_transfer_reason wops hops u).2 hx fun ⟨r, hr, _⟩ => by rw [hrm] at hr; cases hr

/-- `remove()` with nothing else running meanwhile is its three steps in a row -/
theorem C15_remove_is_its_steps (w : World) (id : Nat) :
    wstep w (.trm id) = wrun w [.trmStart id, .trmDrop id, .trmEnd id] := rfl

/-- **FRIEND = "a session exists and the name is in the friends list"**, at all times, for every user other
than the own name — in particular again after every login that follows a close. -/
theorem C15_friend_reason (wops : List WOp) (hops : ∀ op ∈ wops, op.appOk = true) (u : Nat) (hu : u ≠ me) :
    let w := wrun World.init wops
    (reasons w.t u).fr = (w.session && decide (u ∈ w.friends)) :=
  (winv_reach wops hops).fr u hu

/-- the owners (login, cycle, friends list, transfers) never touch REQUESTED: it is the fold of the
application's own calls since the last close -/
theorem C15_owners_leave_requested (w : World) (op : WOp) (hop : ∀ b, op ≠ .base b) (u : Nat) :
    (reasons (wstep w op).t u).req = (reasons w.t u).req :=
  req_owner_step w op hop u

/-- **What is observable mirrors what can be observed.** In any world state with a session in which a cycle ran
after the last change of the transfers and no `remove()` is about to ask about the user, a user (other than
the own name) whose worker has caught up (`queue = []`) reports exactly these reasons: REQUESTED as the application left it, TRANSFER iff an
unfinished transfer exists, FRIEND iff in the friends list — and the last request made to the server for that
user is an AddUser exactly when one of the three stands. -/
theorem C15_session_mirror (wops : List WOp) (hops : ∀ op ∈ wops, op.appOk = true) (u : Nat) (hu : u ≠ me) :
    let w := wrun World.init wops
    let U := w.t.users u
    w.session = true → w.cycleRan = true → ¬ w.RemovalPending u → U.queue = [] →
      U.flagsOf = ⟨(reasons w.t u).req, decide (w.HasUnfinished u), decide (u ∈ w.friends)⟩ ∧
      (U.frames.getLast? = some .addUser ↔
        ((reasons w.t u).req = true ∨ w.HasUnfinished u ∨ u ∈ w.friends)) := by
  intro w U hs hc hp hq
  have hinv : UInv w.t.now U := by
    obtain ⟨ops, h⟩ := wrun_is_run wops
    show UInv w.t.now (w.t.users u)
    rw [h]
    exact inv_reach ops u
  have hfl : U.flagsOf = ⟨(reasons w.t u).req, decide (w.HasUnfinished u), decide (u ∈ w.friends)⟩ := by
    rw [← (C15_transfer_reason wops hops u).1 hc hp, ← (winv_reach wops hops).frOn hs u hu, hinv.flags,
      hinv.caughtUp hq]
    rfl
  refine ⟨hfl, ?_⟩
  rw [hinv.wire, hfl, Flags.ne_empty_iff]
  simp

/-- **After the next session every still-standing reason is tracked again.** From any reachable world state:
the server connection closes (everything is dropped, `C15_drop_on_close`), the client logs in again and the
transfer manager runs its next cycle. Then the requests made in the new session amount, for every user other
than the own name, to exactly: no REQUESTED (the application has to ask again), TRANSFER iff the user still has
an unfinished transfer, FRIEND iff the name is still in the friends list — transfers and friends list are
untouched by the loss. -/
theorem C15_rederived_after_session_loss (wops : List WOp) (hops : ∀ op ∈ wops, op.appOk = true)
    (u : Nat) (hu : u ≠ me) :
    let w := wrun World.init wops
    let w' := wrun w [.base .serverClosed, .login, .cycle]
    w'.xfers = w.xfers ∧ w'.friends = w.friends ∧ w'.session = true ∧
    reasons w'.t u = ⟨false, decide (w.HasUnfinished u), decide (u ∈ w.friends)⟩ :=
  ⟨rfl, rfl, rfl, World.rederived _ u hu⟩

/-! ### Non-vacuity: reachable states that meet the hypotheses -/

def fFriend : Flags := ⟨false, false, true⟩

/-- track → AddUser sent → exists: tracked and quiescent -/
example : ((run State.init [.track 0 fReq, .workerStep 0 .sendOk, .workerStep 0 .sendOk,
    .workerStep 0 .exists]).users 0).stateOf = .tracked := by decide

/-- the exit window: the worker returns, a call arrives before its done-callback, then the callback runs —
the new entry survives and its request is served -/
example :
    let U := (run State.init [.track 0 fReq, .workerStep 0 .sendOk, .workerStep 0 .sendOk, .workerStep 0 .exists,
      .untrack 0 fReq, .workerStep 0 .sendOk, .workerStep 0 .sendOk,   -- worker returned, task 0 finished
      .track 0 fFriend, .reap 0 0, .workerStep 0 .sendOk]).users 0
    U.flagsOf = fFriend ∧ U.frames = [.addUser, .removeUser, .addUser] ∧ U.finished = [] := by decide

/-- a failed attempt: retry pending with the documented delay; the timer cannot fire before it is due -/
example :
    let s := run State.init [.advance 7, .track 0 fReq, .workerStep 0 .sendOk, .workerStep 0 .sendFail,
      .retryFires 0, .advance 10239, .retryFires 0]
    (s.users 0).stateOf = .retryPending ∧ (s.users 0).pending = 1 ∧ (s.users 0).fired = 0 := by decide
example :
    let s := run State.init [.advance 7, .track 0 fReq, .workerStep 0 .sendOk, .workerStep 0 .sendFail,
      .advance 10240, .retryFires 0, .workerStep 0 .sendOk]
    (s.users 0).fired = 1 ∧ (s.users 0).frames = [.addUser, .addUser] := by decide

/-- the retry that was called off: the attempt fails, the timer fires while the worker has not run, and the
request it puts ends up behind an untrack + track pair. The user is untracked, tracked again (answered "exists") —
and the stale retry request sends nothing (on the pinned code: a fourth attempt, AddUser to a tracked user) -/
example :
    let s := run State.init [.track 0 fReq, .workerStep 0 .sendOk, .workerStep 0 .sendFail, .advance 10240,
      .untrack 0 fReq, .track 0 fReq, .retryFires 0,
      .workerStep 0 .sendOk, .workerStep 0 .sendOk,                       -- untrack: RemoveUser, sent
      .workerStep 0 .sendOk, .workerStep 0 .sendOk, .workerStep 0 .exists, -- track: AddUser, sent, "exists"
      .workerStep 0 .sendOk]                                              -- the stale retry request
    (s.users 0).frames = [.addUser, .removeUser, .addUser] ∧ (s.users 0).stateOf = .tracked ∧
    (s.users 0).queue = [] ∧ (s.users 0).fired = 1 ∧
    (s.users 0).log = [.add 0, .fail 10240, .remove, .add 10240, .ok] := by decide

/-- the pending retry is honoured: same start, nobody interferes -/
example :
    let s := run State.init [.track 0 fReq, .workerStep 0 .sendOk, .workerStep 0 .sendFail, .advance 10240,
      .retryFires 0]
    (∃ e, (s.users 0).entry = some e ∧ e.live = some 0) ∧
    ((step s (.workerStep 0 .sendOk)).users 0).log = [.add 0, .fail 10240, .add 10240] := by
  refine ⟨⟨_, rfl, rfl⟩, ?_⟩
  decide

/-- calls with a reason satisfy `flagOk`; a close is not a call -/
example : ∀ op ∈ [Op.track 0 fReq, .untrack 1 fFriend, .serverClosed, .advance 3], op.flagOk = true := by decide
example : ∀ op ∈ [Op.workerStep 0 .sendOk, .retryFires 1, .reap 0 0, .serverClosed], op.isCall = false := by decide


/-- a world history with a session loss in the middle: bob (0) has an unfinished download and is a friend,
user 1 is explicitly requested. After close + login + cycle (and the workers catching up) bob is asked for again
with TRANSFER and FRIEND, user 1 is not (the application has to ask again) -/
def lossHistory : List WOp :=
  [.friend 0 true, .tadd 0, .login, .cycle, .base (.track 1 fReq),
   .base (.workerStep 0 .sendOk), .base (.workerStep 0 .sendOk), .base (.workerStep 0 .exists),
   .base (.workerStep 0 .sendOk), .base (.workerStep 1 .sendOk),
   .base .serverClosed, .login, .cycle,
   .base (.workerStep 0 .sendOk), .base (.workerStep 0 .sendOk), .base (.workerStep 0 .exists),
   .base (.workerStep 0 .sendOk)]

example : ∀ op ∈ lossHistory, op.appOk = true := by decide

example :
    let w := wrun World.init lossHistory
    w.session = true ∧ w.cycleRan = true ∧ (w.t.users 0).queue = [] ∧ w.HasUnfinished 0 ∧ 0 ∈ w.friends ∧
    (w.t.users 0).flagsOf = ⟨false, true, true⟩ ∧ (w.t.users 0).frames = [.addUser] ∧
    (w.t.users 0).stateOf = .tracked ∧ (w.t.users 1).flagsOf = Flags.empty ∧ (w.t.users 1).frames = [] := by
  decide

/-- removing the last transfer of a user withdraws TRANSFER (RemoveUser follows) -/
example :
    let w := wrun World.init [.tadd 0, .cycle, .base (.workerStep 0 .sendOk), .base (.workerStep 0 .sendOk),
      .base (.workerStep 0 .exists), .trm 0, .base (.workerStep 0 .sendOk)]
    ¬ w.HasXfer 0 ∧ (w.t.users 0).frames = [.addUser, .removeUser] := by
  decide

/-- two removals of one user's last two transfers that overlap ("clear all"): each takes its transfer off the
list before either asks; the one that ends last sees no transfer left and withdraws the reason -/
example :
    let w := wrun World.init [.tadd 0, .tadd 0, .cycle, .base (.workerStep 0 .sendOk), .base (.workerStep 0 .sendOk),
      .base (.workerStep 0 .exists), .trmStart 0, .trmStart 1, .trmDrop 0, .trmDrop 1, .trmEnd 0, .trmEnd 1,
      .base (.workerStep 0 .sendOk)]
    w.rm = [] ∧ ¬ w.HasXfer 0 ∧ (w.t.users 0).frames = [.addUser, .removeUser] ∧
    (reasons w.t 0).tr = false := by
  decide

/-- a transfer of the same user is added while the only one is being removed: at its end the removal sees the
new transfer and leaves the reason alone -/
example :
    let w := wrun World.init [.tadd 0, .cycle, .base (.workerStep 0 .sendOk), .base (.workerStep 0 .sendOk),
      .base (.workerStep 0 .exists), .trmStart 0, .trmDrop 0, .tadd 0, .trmEnd 0, .base (.workerStep 0 .sendOk)]
    w.rm = [] ∧ w.HasUnfinished 0 ∧ (w.t.users 0).frames = [.addUser] ∧ (reasons w.t 0).tr = true := by
  decide

/-- between `trmDrop` and `trmEnd` the user is `RemovalPending`: the exception in `C15_transfer_reason` is met -/
example :
    let w := wrun World.init [.tadd 0, .cycle, .trmStart 0, .trmDrop 0, .cycle]
    w.cycleRan = true ∧ w.RemovalPending 0 ∧ ¬ w.HasXfer 0 ∧ (reasons w.t 0).tr = true := by
  decide

end AioslskVerif.C15
