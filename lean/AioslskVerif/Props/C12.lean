import AioslskVerif.Proofs.ExpectLife
/-!
# C12 — a reply completes exactly the requests it answers; a timeout is a timeout

The model (`Model/Expect.lean`) is the code **with** `fixes/C12-done-guards.patch`,
`fixes/C12-predicate-fields.patch` and `fixes/C12-execute-cancel-during-send.patch` applied.
`run ops` is the state after any list of operations (requests created, callers starting to await,
messages *entering* `on_message_received` (`arrive`), their handlers *having returned* (`finish` = the
completion loop), connections changing state, timeouts, task/future cancellations, failing sends,
scheduled callbacks run one at a time) — i.e. any schedule; a waiter's identity is its index in `ws`, a
message's number is the index of its call in `hs`.

What the handlers of a message (the Network's own handler, the listeners of `MessageReceivedEvent`) do
between `arrive c μ` and `finish h` is not restricted in any way: they are the ops in between — they may
suspend for any number of steps, close the connection the message came on (`connState c true`) or any
other, create new requests, cancel or time out pending ones, await a nested request whose reply arrives
(`arrive` … `finish`) on another connection or on the same one while the outer call is still running.
Every theorem below quantifies over all such op lists.
-/
namespace AioslskVerif.C12
open AioslskVerif.Expect

/-- `matches` is exactly: connection class, message class, peer name and **every** expected field
(constant or predicate) agree. -/
theorem C12_matcher_spec (m : Matcher) (μ : Msg) :
    m.matches μ = true ↔
      (μ.conn.cls = m.cls ∧ μ.cls = m.msg ∧ peerOk m μ.conn = true ∧ ∀ fe ∈ m.fields, fieldOk μ fe = true) := by
  unfold Matcher.matches
  rw [← fieldsMatch_iff]
  by_cases h1 : μ.conn.cls = m.cls <;> by_cases h2 : μ.cls = m.msg <;>
    by_cases h3 : peerOk m μ.conn = true <;> simp [h1, h2, h3]

/-- No schedule makes `on_message_received` raise or hands a caller `InvalidStateError`. -/
theorem C12_no_internal_error (ops : List Op) :
    (run ops).err = 0 ∧ ∀ (k : Nat) (w : Waiter), (run ops).ws[k]? = some w → w.out ≠ .invalidState :=
  ⟨(inv_run ops).e, fun k w hk => ((inv_run ops).w k w hk).valid⟩

/-- A pending request is never dropped from the list (so every later message is tried on it). -/
theorem C12_pending_is_listed (ops : List Op) (k : Nat) (w : Waiter)
    (hk : (run ops).ws[k]? = some w) (hp : w.fut = .pending) : w.listed = true :=
  ((inv_run ops).w k w hk).listed hp

/-- The handlers of a message have returned, in any reachable state — whatever they did meanwhile,
whatever state any connection is in, whichever other calls are still running: **every** pending request
the message answers is completed with it, and no other request is touched. -/
theorem C12_all_pending_matching_resolved (ops : List Op) (h : Nat) (hd : Handling)
    (hh : (run ops).hs[h]? = some hd) (hnd : hd.done = false) (k : Nat) (w : Waiter)
    (hk : (run ops).ws[k]? = some w) :
    ∃ w', (run (ops ++ [.finish h])).ws[k]? = some w' ∧
      (w.fut = .pending → w.m.matches hd.μ = true → w'.fut = .result h) ∧
      (¬ (w.fut = .pending ∧ w.m.matches hd.μ = true) → w'.fut = w.fut) := by
  refine ⟨resolveW hd.μ h w, by simp [run_snoc, step_finish hh hnd, hk], fun hp hm => ?_, fun hn => ?_⟩
  · have := hit_iff.mpr ⟨C12_pending_is_listed ops k w hk hp, hp, hm⟩
    simp [resolveW, this]
  · have : ¬ hit hd.μ w = true := fun h => hn (hit_iff.mp h).2
    simp [resolveW, this]

/-- The completion loop consults the call's own message and the list of requests — nothing else: the
same requests are completed whatever the state of the connections (the one the message came on
included: closed *while* the message was handled) and whatever other calls of `on_message_received` are
running or finished (no serialisation across connections). -/
theorem C12_completion_ignores_connections_and_other_calls (s : State) (h : Nat) (hd : Handling)
    (hh : s.hs[h]? = some hd) (cl : List Nat) (hs' : List Handling) (hh' : hs'[h]? = some hd) :
    (step { s with closing := cl, hs := hs' } (.finish h)).ws = (step s (.finish h)).ws ∧
    (step { s with closing := cl, hs := hs' } (.finish h)).cbq = (step s (.finish h)).cbq := by
  simp only [step, hh, hh']
  by_cases hdn : hd.done = true <;> simp [hdn]

/-- Handlers first: entering `on_message_received` completes nothing, it only opens the call (numbered
by arrival); the call is completed by its own `finish` and by nothing else, once. -/
theorem C12_handlers_first (s : State) (c : Nat) (μ : Msg) :
    (step s (.arrive c μ)).ws = s.ws ∧ (step s (.arrive c μ)).cbq = s.cbq ∧
    (step s (.arrive c μ)).hs[s.nmsg]? = some { μ := μ, c := c, done := false } := by
  simp [step, State.nmsg]

theorem C12_finish_once (s : State) (h : Nat) : step (step s (.finish h)) (.finish h) = step s (.finish h) := by
  rcases step_finish_cases s h with he | ⟨hd, hh, hdn⟩
  · rw [he, he]
  · rw [step_finish hh hdn]
    simp [step, (List.getElem?_eq_some_iff.mp hh).1]

/-- Every call record is the arrival of exactly that message on exactly that connection; its number is
the number of messages that had arrived before. -/
theorem C12_call_is_arrival (ops : List Op) (h : Nat) (hd : Handling) (hh : (run ops).hs[h]? = some hd) :
    ∃ pre post, ops = pre ++ Op.arrive hd.c hd.μ :: post ∧ (run pre).nmsg = h :=
  arrival_foldl ops {} h hd (by simp) hh

/-- A completed / cancelled request never changes again, whatever happens later; the caller's
answer, once given, is final; the matcher is fixed. -/
theorem C12_at_most_once (ops ops' : List Op) (k : Nat) (w : Waiter) (hk : (run ops).ws[k]? = some w) :
    ∃ w', (run (ops ++ ops')).ws[k]? = some w' ∧ w'.m = w.m ∧
      (w.fut ≠ .pending → w'.fut = w.fut) ∧ (w.out ≠ .none → w'.out = w.out) := by
  rw [run_append]
  exact stable_foldl (inv_run ops) ops' hk

/-- A request completed with message number `i` was completed *by* that message: by the completion
loop of call `i` (which ran once its handlers had returned), while the request was pending and listed, and the
message matches. -/
theorem C12_resolved_by_first_match (ops : List Op) (k i : Nat) (w : Waiter)
    (hk : (run ops).ws[k]? = some w) (hr : w.fut = .result i) :
    ∃ pre post hd w0, ops = pre ++ Op.finish i :: post ∧
      (run pre).hs[i]? = some hd ∧ hd.done = false ∧
      (run pre).ws[k]? = some w0 ∧ w0.fut = .pending ∧ w0.listed = true ∧ w0.m.matches hd.μ = true :=
  first_match_foldl (inv_run []) ops (by simp [run]) hk hr

/-- … and it is the *first* such message: once the handlers of a matching message have returned while the
request is pending, the request holds that message for ever (no later message can complete it). -/
theorem C12_first_match_wins (pre : List Op) (h : Nat) (hd : Handling) (post : List Op) (k : Nat) (w0 : Waiter)
    (hh : (run pre).hs[h]? = some hd) (hnd : hd.done = false)
    (hk : (run pre).ws[k]? = some w0) (hp : w0.fut = .pending) (hm : w0.m.matches hd.μ = true) :
    ∃ w, (run (pre ++ Op.finish h :: post)).ws[k]? = some w ∧ w.fut = .result h := by
  obtain ⟨w1, hk1, h1, _⟩ := C12_all_pending_matching_resolved pre h hd hh hnd k w0 hk
  obtain ⟨w2, hk2, _, h2, _⟩ := C12_at_most_once (pre ++ [.finish h]) post k w1 hk1
  rw [List.append_assoc] at hk2
  exact ⟨w2, hk2, (h2 (by rw [h1 hp hm]; nofun)).trans (h1 hp hm)⟩

/-- Requests made from inside handlers: in ANY reachable state — in particular while any number of calls of
`on_message_received` are still running, the one whose listener makes the request included — a request that is
created and awaited now is completed by a matching message that arrives next, on whatever connection `c`, as
soon as that message's own handlers have returned; every other call is exactly as it was (still running if it
was running: nobody had to wait for anybody). -/
theorem C12_nested_request_answered (ops : List Op) (kd : Kind) (m : Matcher) (c : Nat) (μ : Msg)
    (hm : m.matches μ = true) :
    let k := (run ops).ws.length
    let h := (run ops).nmsg
    let s' := run (ops ++ [.create kd m, .awaitF k, .arrive c μ, .finish h])
    (∃ w, s'.ws[k]? = some w ∧ w.fut = .result h) ∧
    (∀ (h0 : Nat) (hd : Handling), (run ops).hs[h0]? = some hd → s'.hs[h0]? = some hd) := by
  intro k h s'
  rw [show s' = _ from run_append ..]
  exact nested_step (run ops) kd m c μ hm

/-- Once a caller's timeout has fired (and nobody cancelled the caller) the only answer it can get
is `TimeoutError`; when the scheduled callbacks have run it has got it. -/
theorem C12_timeout_is_timeout (ops : List Op) (k : Nat) (w : Waiter) (hk : (run ops).ws[k]? = some w)
    (he : w.expired = true) (hc : w.cancelReq = false) :
    (w.out = .none ∨ w.out = .timeout) ∧ ((run ops).cbq = [] → w.out = .timeout) := by
  have h := (inv_run ops).w k w hk
  refine ⟨h.timeout he hc, fun hq => (h.timeout he hc).resolve_left fun hn => ?_⟩
  -- still waiting with the future done: the wake-up is scheduled
  have := h.wakeQ (h.waiting (h.expired he).2 hn) (h.expired he).1
  rw [hq] at this
  cases this

/-- firing a timeout on a waiting caller does put it in the state the previous theorem speaks of,
and cancels the request -/
theorem C12_timeout_fires (ops : List Op) (k : Nat) (w : Waiter) (hk : (run ops).ws[k]? = some w)
    (ha : w.awaiting = true) (he : w.expired = false) :
    ∃ w', (run (ops ++ [.timeout k])).ws[k]? = some w' ∧ w'.expired = true ∧ w'.cancelReq = w.cancelReq ∧
      w'.fut ≠ .pending := by
  obtain ⟨f, hf, hx⟩ := cancelW_fst k w
  refine ⟨_, by rw [run_snoc, step_aimed rfl, upd_get _ hk, if_pos rfl], ?_⟩
  simp only [Op.onW, ha, he, hx]
  exact ⟨rfl, rfl, hf⟩

/-- No residue: after the scheduled callbacks have run, only pending requests are in the list. -/
theorem C12_no_residue (ops : List Op) :
    let s := run (ops ++ List.replicate (run ops).cbq.length Op.cb)
    s.cbq = [] ∧ ∀ (k : Nat) (w : Waiter), s.ws[k]? = some w → w.listed = true → w.fut = .pending := by
  intro s
  have hq : s.cbq = [] := by
    show (run (ops ++ _)).cbq = []
    rw [run, List.foldl_append]
    exact drain_foldl _ _ (inv_run ops) rfl
  refine ⟨hq, fun k w hk hl => Classical.byContradiction fun hp => ?_⟩
  have := ((inv_run _).w k w hk).removeQ hl hp
  rw [hq] at this
  cases this

/-- A request whose caller has got its answer (result, `TimeoutError`, `CancelledError`, the error of
a failed / cancelled `send`) is never left pending — in particular `execute()` cancelled while it is
suspended in `command.send` (`sendFails k true`) does not leave a request that nobody waits for. -/
theorem C12_caller_gone_not_pending (ops : List Op) (k : Nat) (w : Waiter)
    (hk : (run ops).ws[k]? = some w) (ho : w.out ≠ .none) : w.fut ≠ .pending :=
  ((inv_run ops).w k w hk).gone ho

/-- … hence, once the scheduled callbacks have run, it is not in the list any more. -/
theorem C12_caller_gone_not_listed (ops : List Op) :
    let s := run (ops ++ List.replicate (run ops).cbq.length Op.cb)
    ∀ (k : Nat) (w : Waiter), s.ws[k]? = some w → w.out ≠ .none → w.listed = false := by
  intro s k w hk ho
  have hres := (C12_no_residue ops).2 k w hk
  have hnp := C12_caller_gone_not_pending _ k w hk ho
  cases hl : w.listed with
  | false => rfl
  | true => exact absurd (hres hl) hnp

/-- `command.send` raising (or being cancelled) inside `execute` ends the request at once. -/
theorem C12_aborted_send_ends_request (ops : List Op) (k : Nat) (w : Waiter) (c : Bool)
    (hk : (run ops).ws[k]? = some w) (hkind : w.kind = .exec) (hs : w.started = false) :
    ∃ w', (run (ops ++ [.sendFails k c])).ws[k]? = some w' ∧ w'.fut ≠ .pending ∧
      w'.out = (if c then .cancelled else .sendError) := by
  obtain ⟨f, hf, hx⟩ := cancelW_fst k w
  refine ⟨_, by rw [run_snoc, step_aimed rfl, upd_get _ hk, if_pos rfl], ?_⟩
  simp only [Op.onW, hkind, hs, hx]
  exact ⟨hf, rfl⟩

/-! ### What ends a request (round 5)

"Completes **iff**": a pending request leaves the pending state only by one of its own events (`OwnEvent`): the completion
loop of a message that matches it, its timeout, a cancellation of the request or of its caller, the failure of its own
`send`.  Nothing else that happens meanwhile ends it — in particular not the life of the connections: the one the request
went out on, the last one of that peer, the server's (`connState c true` = CLOSING / CLOSED reported by
`Connection.set_state`, `connState c false` = a connection object that is (again) open: a new connection of the peer
accepted / connected to and ESTABLISHED).  Requests are matched by peer *name*: the reply may arrive over a connection
that did not exist when the request was made. -/

/-- `Connection.set_state` reports reach `Network.on_state_changed` (network.py:1060-1126): no request, no scheduled
callback, no running call of `on_message_received` is touched. -/
theorem C12_connection_events_touch_no_request (s : State) (c : Nat) (b : Bool) :
    (step s (.connState c b)).ws = s.ws ∧ (step s (.connState c b)).cbq = s.cbq ∧
    (step s (.connState c b)).hs = s.hs ∧ (step s (.connState c b)).err = s.err := by
  simp [step]

/-- A request that was pending and is not any more: in between lies (a first) one of its own events, and it was still
pending right before it. -/
theorem C12_request_ends_only_by_own_event (ops ops' : List Op) (k : Nat) (w w' : Waiter)
    (hk : (run ops).ws[k]? = some w) (hp : w.fut = .pending)
    (hk' : (run (ops ++ ops')).ws[k]? = some w') (hnp : w'.fut ≠ .pending) :
    ∃ a op b w1, ops' = a ++ op :: b ∧ (run (ops ++ a)).ws[k]? = some w1 ∧ w1.fut = .pending ∧
      OwnEvent (run (ops ++ a)) k w1 op := by
  simp only [run_append] at hk' ⊢
  exact ends_by_own_event_foldl (inv_run ops) ops' hk hp hk' hnp

/-- Whatever happens that is not one of its own events — any number of connections closed, lost, opened; other
requests made, answered, timed out, cancelled; other messages handled; callbacks run — the request is exactly as pending
as before: still pending, same matcher, still awaited, its timeout still armed, its caller not cancelled. -/
theorem C12_pending_survives_foreign_events (ops ops' : List Op) (k : Nat) (w : Waiter)
    (hk : (run ops).ws[k]? = some w) (hp : w.fut = .pending) (hf : NoOwnEvent k (run ops) ops') :
    ∃ w', (run (ops ++ ops')).ws[k]? = some w' ∧ w'.fut = .pending ∧ w'.m = w.m ∧
      (w.awaiting = true → w'.awaiting = true) ∧ w'.expired = w.expired ∧ w'.cancelReq = w.cancelReq := by
  rw [run_append]
  exact kept_foldl ops' (run ops) k w (inv_run ops) hk hp hf

/-- Connection events are nobody's own events: any list of them, from any state. -/
theorem C12_connection_events_are_foreign (k : Nat) (cs : List (Nat × Bool)) (s : State) :
    NoOwnEvent k s (cs.map fun x => Op.connState x.1 x.2) := by
  induction cs generalizing s with
  | nil => trivial
  | cons x rest ih =>
    refine ⟨fun w _ h => ?_, ih _⟩
    rcases h with h | h | h | ⟨_, h⟩ | ⟨_, _, h, _⟩ <;> cases h

/-- The reply arrives over a connection `c` that may not have existed when the request was made (after anything
foreign to the request: e.g. every connection of the peer closed, a new one opened): once its handlers have returned
the request is completed with it. -/
theorem C12_reply_over_new_connection (ops ops' : List Op) (k : Nat) (w : Waiter)
    (hk : (run ops).ws[k]? = some w) (hp : w.fut = .pending) (hf : NoOwnEvent k (run ops) ops')
    (c : Nat) (μ : Msg) (hm : w.m.matches μ = true) :
    ∃ w', (run (ops ++ ops' ++ [.arrive c μ, .finish (run (ops ++ ops')).nmsg])).ws[k]? = some w' ∧
      w'.fut = .result (run (ops ++ ops')).nmsg := by
  obtain ⟨w1, hk1, hp1, hm1, _⟩ := C12_pending_survives_foreign_events ops ops' k w hk hp hf
  have harr : run (ops ++ ops' ++ [.arrive c μ]) = step (run (ops ++ ops')) (.arrive c μ) := run_snoc ..
  obtain ⟨hws, _, hhs⟩ := C12_handlers_first (run (ops ++ ops')) c μ
  obtain ⟨w2, hk2, h2, _⟩ := C12_all_pending_matching_resolved (ops ++ ops' ++ [.arrive c μ]) (run (ops ++ ops')).nmsg
    { μ := μ, c := c, done := false } (by rw [harr]; exact hhs) rfl k w1 (by rw [harr, hws]; exact hk1)
  rw [List.append_assoc _ [_] [_]] at hk2
  exact ⟨w2, hk2, h2 hp1 (hm1 ▸ hm)⟩

/-- … and when no reply arrives: the caller's timeout fires (whatever foreign happened before — the disconnect of the
peer's last connection included) and, once the scheduled callbacks have run, the caller has got `TimeoutError` — not
`CancelledError`, and not before. -/
theorem C12_unanswered_request_times_out (ops ops' : List Op) (k : Nat) (w : Waiter)
    (hk : (run ops).ws[k]? = some w) (hp : w.fut = .pending) (ha : w.awaiting = true) (he : w.expired = false)
    (hc : w.cancelReq = false) (hf : NoOwnEvent k (run ops) ops') :
    (∃ w1, (run (ops ++ ops')).ws[k]? = some w1 ∧ w1.out = .none ∧ w1.fut = .pending) ∧
    ∃ w', (run (ops ++ ops' ++ [.timeout k] ++
        List.replicate (run (ops ++ ops' ++ [.timeout k])).cbq.length Op.cb)).ws[k]? = some w' ∧ w'.out = .timeout := by
  obtain ⟨w1, hk1, hp1, _, ha1, he1, hc1⟩ := C12_pending_survives_foreign_events ops ops' k w hk hp hf
  refine ⟨⟨w1, hk1, Classical.byContradiction fun hn => C12_caller_gone_not_pending _ k w1 hk1 hn hp1, hp1⟩, ?_⟩
  obtain ⟨w2, hk2, he2, hc2, _⟩ := C12_timeout_fires (ops ++ ops') k w1 hk1 (ha1 ha) (he1.trans he)
  obtain ⟨w3, hk3, he3, hc3⟩ := cb_flags_foldl (inv_run _) (run (ops ++ ops' ++ [.timeout k])).cbq.length hk2
  rw [← run_append] at hk3
  have hq := (C12_no_residue (ops ++ ops' ++ [.timeout k])).1
  exact ⟨w3, hk3, (C12_timeout_is_timeout _ k w3 hk3 (he3.trans he2) (hc3.trans (hc2.trans (hc1.trans hc)))).2 hq⟩

/-! Non-vacuity: concrete reachable states (matcher with a predicate field followed by a constant). -/

def exMatcher : Matcher := { cls := .server, msg := 1, peer := none, fields := [(4, .pred fun _ => true), (5, .const (.v 7))] }
def exGood : Msg := { conn := .server, cls := 1, attrs := [(4, .v 1), (5, .v 7)] }
def exBad : Msg := { conn := .server, cls := 1, attrs := [(4, .v 1), (5, .v 8)] }

-- the second field counts (without `fixes/C12-predicate-fields.patch` the code answers `true` here)
example : exMatcher.matches exBad = false := by decide
example : exMatcher.matches exGood = true := by decide
-- two waiters, one reply twice back-to-back: both complete with the first, nothing raises
example : ((run ([.create .wait exMatcher, .awaitF 0, .create .raw exMatcher, .awaitF 1] ++ Op.message 0 exGood 0 ++
    Op.message 0 exGood 1)).ws.map (·.fut)) = [.result 0, .result 0] := by decide
-- a timeout, then the reply while the timed-out request is still listed: caller gets TimeoutError
example : ((run ([.create .wait exMatcher, .awaitF 0, .timeout 0] ++ Op.message 0 exGood 0 ++ [.cb, .cb])).ws.map
    fun w => (w.fut, w.listed, w.expired, w.cancelReq, w.out)) = [(.cancelled, false, true, false, .timeout)] := by decide
-- reply and timeout in the same iteration
example : ((run ([.create .wait exMatcher, .awaitF 0] ++ Op.message 0 exGood 0 ++ [.timeout 0, .cb, .cb])).ws.map
    fun w => (w.fut, w.listed, w.out)) = [(.result 0, false, .timeout)] := by decide

-- execute(): registered, suspended in send, task cancelled there; the reply arrives afterwards: nobody is listed
example : ((run ([.create .exec exMatcher, .sendFails 0 true, .cb] ++ Op.message 0 exGood 0)).ws.map
    fun w => (w.fut, w.listed, w.out)) = [(.cancelled, false, .cancelled)] := by decide

def exPeer : Matcher := { cls := .peer, msg := 0, peer := some 1, fields := [(0, .const (.v 3))] }
def exPeerReply : Msg := { conn := .peer (some 1), cls := 0, attrs := [(0, .v 3)] }

-- a handler of the reply closes the connection it came on before it returns: the request is completed all the same
example : ((run [.create .wait exPeer, .awaitF 0, .arrive 2 exPeerReply, .connState 2 true, .finish 0, .cb, .cb]).ws.map
    fun w => (w.fut, w.listed, w.out)) = [(.result 0, false, .result 0)] := by decide
-- a listener of server message #0 awaits a nested request inline; its reply (#1) arrives on a peer connection and
-- completes it while call #0 is still running; afterwards call #0 finishes and completes the outer request
example : ((run [.create .raw exMatcher, .awaitF 0, .arrive 0 exGood, .create .wait exPeer, .awaitF 1,
    .arrive 2 exPeerReply, .finish 1, .cb, .cb, .finish 0, .cb, .cb]).ws.map
    fun w => (w.fut, w.listed, w.out)) = [(.result 0, false, .result 0), (.result 1, false, .result 1)] := by decide
-- a request registered by a handler of the message it matches is completed by that message; one cancelled by a
-- handler is not
example : ((run [.create .raw exMatcher, .awaitF 0, .arrive 0 exGood, .cancelFut 0, .create .raw exMatcher,
    .finish 0]).ws.map (·.fut)) = [.cancelled, .result 0] := by decide

-- every connection of the peer is closed (2, 4), a new one (6) comes about, the reply arrives over it: completed
example : ((run [.create .wait exPeer, .awaitF 0, .connState 4 true, .connState 2 true, .connState 6 false,
    .arrive 6 exPeerReply, .finish 0, .cb, .cb]).ws.map fun w => (w.fut, w.listed, w.out)) =
    [(.result 0, false, .result 0)] := by decide
-- … nothing arrives: still pending after the disconnects, TimeoutError when (and only when) the timeout fires
example : ((run [.create .exec exPeer, .awaitF 0, .connState 2 true, .connState 4 true]).ws.map
    fun w => (w.fut, w.listed, w.out)) = [(.pending, true, .none)] := by decide
example : ((run [.create .exec exPeer, .awaitF 0, .connState 2 true, .connState 4 true, .timeout 0, .cb, .cb]).ws.map
    fun w => (w.fut, w.listed, w.out)) = [(.cancelled, false, .timeout)] := by decide
-- the hypotheses of `C12_unanswered_request_times_out` / `C12_reply_over_new_connection` are satisfiable
example : NoOwnEvent 0 (run [.create .exec exPeer, .awaitF 0]) [.connState 2 true, .connState 4 true, .connState 6 false] :=
  C12_connection_events_are_foreign 0 [(2, true), (4, true), (6, false)] _

end AioslskVerif.C12
