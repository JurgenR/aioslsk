import AioslskVerif.Proofs.DistSearch
/-!
# C14 — search requests flow down the tree exactly once, and are answered to the asker

The model (`Model/DistSearch.lean` on the tree model `Model/Dist.lean`) is the code with the proposed fix
`fixes/C14-own-search-distributed-carriers.patch` applied (and the three C13 fixes, which are in `/repo`).

Quantifiers. `run ops` ranges over **all** histories of tree operations (any number of peers, connections,
announcements, closes, session losses): every reachable tree state. `r : Req` ranges over all three carriers
and all values of code / unknown / user / ticket / query. `env : Env` ranges over all share contents
(`answer u q` = what the shares return for asking user `u` and query `q`, as visible and locked files — C07/C08
say which) and all block lists. `handle env s r` is everything written because `r` was received in state `s`.

Reading (DESIGN.md, C14). "Own" is read on the session's user: `session = some r.user`. A carrier "is a search
request" (`r.IsSearch`) unless it is the legacy wrapper with a `distributed_code` other than 3, which the code
ignores altogether. The code does not look at the connection a carrier arrived on, so every statement holds
whichever connection delivered it (server, parent, or anybody else).
-/
namespace AioslskVerif.C14
open AioslskVerif.Dist
open AioslskVerif.DistSearch
open AioslskVerif.Generated.DistSearch

/-- **Fan-out, exactly.** A search request that is not the logged-in user's own is passed on as the list
`children.map (DistributedSearchRequest(unknown, user, ticket, query))` — one frame per current child, in
list order, nothing else — with the carrier's user, ticket and query unchanged (and its `unknown`; `0x31` for
the legacy wrapper). List equality is stronger than multiset equality. -/
theorem C14_fanout_exact (ops : List Op) (r : Req) (hown : (run ops).session ≠ some r.user) (hs : r.IsSearch) :
    forward (run ops) r =
      (run ops).children.map (fun c => Out.fwd c r.outUnknown r.user r.ticket r.query) :=
  forward_foreign _ r hown hs

/-- **Exactly once to every current child, to no other connection**: among *all* frames written because of the
carrier (forwards and reply), the number addressed to distributed connection `c` is 1 when `c` is a current
child and 0 otherwise. (Uses the C13 invariant: no connection is listed twice as a child.) -/
theorem C14_exactly_once (env : Env) (ops : List Op) (r : Req) (hown : (run ops).session ≠ some r.user)
    (hs : r.IsSearch) (c : ConnId) :
    (handle env (run ops) r).countP (Out.toConn c) = if c ∈ (run ops).children then 1 else 0 := by
  rw [countP_handle env _ r hown hs c]
  exact (run_inv ops).str.childNodup.count

/-- **Never back to the parent, to candidates or to anybody else** — for *every* carrier (own or foreign,
search or not): a frame written to a distributed connection goes to a current child; that connection is not
the parent's, its user is not the parent's user, and it carries the carrier's user, ticket and query. A
candidate (a live distributed connection that is neither parent nor child) therefore receives nothing. -/
theorem C14_not_to_others (env : Env) (ops : List Op) (r : Req) (o : Out) (c : ConnId)
    (ho : o ∈ handle env (run ops) r) (hc : o.toConn c = true) :
    c ∈ (run ops).children ∧ (run ops).parent ≠ some c ∧
    (∀ p, (run ops).parent = some p → (run ops).name c ≠ (run ops).name p) ∧
    ∃ unk, o = Out.fwd c unk r.user r.ticket r.query := by
  unfold handle at ho
  rcases List.mem_append.1 ho with hf | hr
  · obtain ⟨d, unk, hd, rfl⟩ := mem_forward _ r o hf
    have hdc : d = c := by simpa [Out.toConn] using hc
    subst hdc
    have hp := (run_inv ops).str.pnc
    exact ⟨hd, fun h => hp d h d hd rfl, fun p h => hp p h d hd, unk, rfl⟩
  · rw [reply_toConn env _ r o hr c] at hc
    exact absurd hc (by decide)

/-- **No send to closed / closing children.** Every connection a frame is written to is a live registered
distributed connection (`distributed_peers`), and once the `CLOSED` event of connection `c` has been handled
nothing is written to `c` any more, whatever happens afterwards to the carrier. (The window between the `CLOSING`
and the `CLOSED` notification of a connection is `C14_closing_window` below.) -/
theorem C14_no_send_to_closing (env : Env) (ops : List Op) (r : Req) (o : Out) (c : ConnId) :
    (o ∈ handle env (run ops) r → o.toConn c = true → c ∈ (run ops).liveConns) ∧
    (o ∈ handle env (run (ops ++ [.closed c])) r → o.toConn c = false) := by
  refine ⟨fun ho hc => ?_, fun ho => ?_⟩
  · exact (run_inv ops).str.childLive c (C14_not_to_others env ops r o c ho hc).1
  · cases hc : o.toConn c with
    | false => rfl
    | true =>
      have hchild := (C14_not_to_others env (ops ++ [Op.closed c]) r o c ho hc).1
      have hlive := (run_inv (ops ++ [Op.closed c])).str.childLive c hchild
      rw [run_snoc] at hlive
      exact absurd hlive (closePeer_not_live _ c (run_inv ops).str)

/-- **Own searches are silent**: a carrier whose user is the logged-in user — on any of the three carriers, in
any state — is neither forwarded nor answered, and the shares are not even queried (no
`SearchRequestReceivedEvent`). -/
theorem C14_own_silent (env : Env) (s : DState) (r : Req) (hown : s.session = some r.user) :
    handle env s r = [] ∧ received env s r = none := by
  have hq : queried env s r = false := Bool.eq_false_iff.2 (fun h => ((queried_iff env s r).1 h).2.2.1 hown)
  refine ⟨?_, ?_⟩
  · unfold handle
    rw [forward_own s r hown, reply_not_queried env s r hq]
    rfl
  · unfold received
    rw [hq]
    rfl

/-- **Answered iff there are matches.** Logged in, foreign asker that is not search-blocked, search carrier:
a reply is written iff the shares hold a visible or locked match for the asking user; and never more than one. -/
theorem C14_answer_iff (env : Env) (s : DState) (r : Req) (me : Name) (hs : s.session = some me)
    (hu : r.user ≠ me) (hsearch : r.IsSearch) (hb : env.blocked r.user = false) :
    (reply env s r ≠ [] ↔ env.hasMatch r.user r.query) ∧ (reply env s r).length ≤ 1 := by
  refine ⟨?_, reply_length_le env s r⟩
  rw [reply_queried env s r me hs (queried_true env s r me hs hu hsearch hb)]
  split
  next hm => exact ⟨fun _ => hm, fun _ h => by cases h⟩
  next hm => exact ⟨fun h => absurd rfl h, fun h => absurd h hm⟩

/-- **Content of the answer**: when there is a match the one reply goes to the asking user and carries the
carrier's ticket, the own user name, and exactly the visible and the locked files the shares returned for
(asking user, query). -/
theorem C14_answer_content (env : Env) (s : DState) (r : Req) (me : Name) (hs : s.session = some me)
    (hu : r.user ≠ me) (hsearch : r.IsSearch) (hb : env.blocked r.user = false)
    (hm : env.hasMatch r.user r.query) :
    reply env s r =
      [Out.reply r.user r.ticket me (env.answer r.user r.query).1 (env.answer r.user r.query).2] := by
  rw [reply_queried env s r me hs (queried_true env s r me hs hu hsearch hb), if_pos hm]

/-- **All frames, exactly** (the reading of DESIGN.md in one equation): logged in, foreign asker that is not
search-blocked, search carrier, any reachable tree state — everything written is one forwarded request per
child followed by the one reply iff there is a match. -/
theorem C14_frames_exact (env : Env) (ops : List Op) (r : Req) (me : Name) (hs : (run ops).session = some me)
    (hu : r.user ≠ me) (hsearch : r.IsSearch) (hb : env.blocked r.user = false) :
    handle env (run ops) r =
      (run ops).children.map (fun c => Out.fwd c r.outUnknown r.user r.ticket r.query) ++
      (if env.hasMatch r.user r.query then
        [Out.reply r.user r.ticket me (env.answer r.user r.query).1 (env.answer r.user r.query).2] else []) := by
  have hown : (run ops).session ≠ some r.user := by
    rw [hs]; intro h; exact hu (Option.some.inj h).symm
  unfold handle
  rw [forward_foreign _ r hown hsearch, reply_queried env _ r me hs (queried_true env _ r me hs hu hsearch hb)]

/-- no reply without a session, none to a search-blocked user, nothing at all for a wrapper that is not a
search (the forward to the children, where there is one, is unaffected: `C14_fanout_exact`). -/
theorem C14_no_answer (env : Env) (s : DState) (r : Req)
    (h : s.session = none ∨ env.blocked r.user = true ∨ ¬ r.IsSearch) : reply env s r = [] := by
  refine reply_not_queried env s r (Bool.eq_false_iff.2 (fun hq => ?_))
  obtain ⟨h1, h2, _, h4⟩ := (queried_iff env s r).1 hq
  rcases h with h | h | h
  · rw [h] at h2; cases h2
  · rw [h] at h4; cases h4
  · exact h h1

/-- **Membership changes between requests.** In any history of tree operations interleaved with carriers
(children joining / leaving, parent changes, session loss in between — and adds in progress, see below), what is
written for each carrier is `handle` in the tree state reached by the tree operations before it — so all theorems
above apply to every request of every history, each with the children *at that time*. -/
theorem C14_history (env : Env) (h : List SOp) (e : Req × List Out) (he : e ∈ (runS env h).log) :
    ∃ h', h' <+: h ∧ e.2 = handle env (run (treeOps h')) e.1 := by
  obtain ⟨h', hp, heq⟩ := log_history env h e he
  exact ⟨h', hp, by rw [heq, runS_state]⟩

/-- **A child stays a child until its connection is closed.** Whatever the next tree operation is: a connection
listed as a child that is still registered (`distributed_peers`) afterwards is still listed as a child. Entries leave
`children` only through the `CLOSED` event of their connection (`_remove_child` is called from nowhere else; `reset`
and the refusals disconnect). -/
theorem C14_child_until_closed (ops : List Op) (op : Op) (c : ConnId) (hc : c ∈ (run ops).children)
    (hl : c ∈ (run (ops ++ [op])).live) : c ∈ (run (ops ++ [op])).children := by
  rw [run_snoc] at hl ⊢
  exact step_stays (run ops) op (run_inv ops).str c hc hl

/-- **"Current child", observably.** A registered distributed connection to which a `DistributedBranchLevel` has been
written (`toldL c ≠ none`) is listed as a child — the library writes branch levels to children only, and
`children.append` precedes the write in `_add_child`. Hence (with `C14_exactly_once`) every connection that has been
sent our branch level and has not been closed receives each foreign search carrier exactly once. This is the reading
of "current child" the monitor of `props/c14.py` evaluates on what the remote ends see. -/
theorem C14_told_is_child (env : Env) (ops : List Op) (c : ConnId) (hl : c ∈ (run ops).live)
    (ht : (run ops).toldL c ≠ none) :
    c ∈ (run ops).children ∧
    ∀ r : Req, (run ops).session ≠ some r.user → r.IsSearch →
      (handle env (run ops) r).countP (Out.toConn c) = 1 := by
  have hc := run_toldChild ops c hl ht
  refine ⟨hc, fun r hown hs => ?_⟩
  rw [C14_exactly_once env ops r hown hs c, if_pos hc]

/-- **Carriers handled while a child is being added.** In any small-step history — tree operations, carriers,
`addBegin n` (a peer connects, `_add_child` runs up to its suspension in the sends of level and root) and `addEnd c`
(it resumes) in any order and number — a connection whose add is in progress is registered and listed as a child,
and every foreign search carrier handled at that point is passed on to it exactly once. -/
theorem C14_adding_served (env : Env) (h : List SOp) (c : ConnId) (hc : c ∈ (runS env h).adding) :
    c ∈ (runS env h).d.live ∧ c ∈ (runS env h).d.children ∧
    ∀ r : Req, (runS env h).d.session ≠ some r.user → r.IsSearch →
      (handle env (runS env h).d r).countP (Out.toConn c) = 1 := by
  have hok := runS_addingOK env h c hc
  refine ⟨hok.1, hok.2, fun r hown hs => ?_⟩
  have hch := hok.2
  rw [runS_state] at hown hch ⊢
  rw [C14_exactly_once env (treeOps h) r hown hs c, if_pos hch]

/-- **`C14_fanout_exact` over histories with adds in progress.** For every carrier `e.1` logged by a small-step
history there is the prefix `h'` handled before it such that: what was written is `handle` in the tree state of
`h'`; if the carrier is a foreign search, the forwards are exactly one frame per entry of `children` of that state,
fields preserved; and `children` of that state contains every connection whose add was in progress then. -/
theorem C14_fanout_exact_suspended (env : Env) (h : List SOp) (e : Req × List Out) (he : e ∈ (runS env h).log) :
    ∃ h', h' <+: h ∧ e.2 = handle env (runS env h').d e.1 ∧
      ((runS env h').d.session ≠ some e.1.user → e.1.IsSearch →
        forward (runS env h').d e.1 =
          (runS env h').d.children.map (fun c => Out.fwd c e.1.outUnknown e.1.user e.1.ticket e.1.query)) ∧
      ∀ c, c ∈ (runS env h').adding → c ∈ (runS env h').d.children := by
  obtain ⟨h', hp, heq⟩ := log_history env h e he
  exact ⟨h', hp, heq, fun hown hs => forward_foreign _ _ hown hs, fun c hc => (runS_addingOK env h' c hc).2⟩

/-- **Carriers handled while a connection is between its CLOSING and its CLOSED notification.** In any small-step
history — tree operations, carriers, adds in progress, and `closeBegin c` (connection `c` is reported CLOSING: EOF, a
failed write, a time-out; `disconnect` is suspended until the transport is gone, up to DISCONNECT_TIMEOUT) in any order
and number, several connections closing at once included — for every carrier `e.1` there is the prefix `h'` handled
before it such that what was WRITTEN for it is what `handle` queued in the tree state of `h'` minus the frames for the
connections closing at that point, and:
* every closing connection is still registered (it leaves `children` / `distributed_peers` only with `CLOSED`);
* if the carrier is a foreign search: every connection receives it exactly once if it is a current child that is not
  closing and not at all otherwise — a closing child costs none of its siblings their copy, wherever it stands in the list;
* the reply is unaffected, and nothing is written that `handle` did not queue. -/
theorem C14_closing_window (env : Env) (h : List SOp) (e : Req × List Out) (he : e ∈ (runS env h).sent) :
    ∃ h', h' <+: h ∧
      e.2 = written (runS env h').closing (handle env (runS env h').d e.1) ∧
      (∀ c, c ∈ (runS env h').closing → c ∈ (runS env h').d.live) ∧
      ((runS env h').d.session ≠ some e.1.user → e.1.IsSearch → ∀ c,
        e.2.countP (Out.toConn c) =
          if c ∈ (runS env h').d.children ∧ c ∉ (runS env h').closing then 1 else 0) ∧
      (∀ o, o ∈ reply env (runS env h').d e.1 → o ∈ e.2) ∧
      (∀ o, o ∈ e.2 → o ∈ handle env (runS env h').d e.1) := by
  obtain ⟨h', hp, heq⟩ := sent_history env h e he
  refine ⟨h', hp, heq, (runS_closingOK env h').1, fun hown hs c => ?_, fun o ho => ?_, fun o ho => ?_⟩
  · rw [heq, countP_written]
    rw [runS_state] at hown ⊢
    rw [C14_exactly_once env (treeOps h') e.1 hown hs c]
    by_cases hcl : c ∈ (runS env h').closing
    · simp [hcl]
    · by_cases hch : c ∈ (run (treeOps h')).children <;> simp [hcl, hch]
  · rw [heq]; exact reply_sub_written env _ e.1 _ o ho
  · rw [heq] at ho; exact written_sub _ _ o ho

/-- **A closing connection keeps its place until CLOSED.** Reporting connection `c` CLOSING changes nothing in the tree
(`children`, `parent`, `distributed_peers`, the adds in progress): the library acts on `CLOSED` only. And the `CLOSED`
notification ends the window: `c` is not closing afterwards (and, `C14_no_send_to_closing`, not a child either). -/
theorem C14_closing_keeps_place (env : Env) (h : List SOp) (c : ConnId) :
    (runS env (h ++ [.closeBegin c])).d = (runS env h).d ∧
    (runS env (h ++ [.closeBegin c])).adding = (runS env h).adding ∧
    c ∉ (runS env (h ++ [.tree (.closed c)])).closing := by
  refine ⟨?_, ?_, closed_not_closing env h c⟩
  · rw [runS_snoc, stepS_closeBegin_d]
  · rw [runS_snoc, stepS_closeBegin_adding]

def isCloseBegin : SOp → Bool
  | .closeBegin _ => true
  | _ => false

/-- **Without closing windows everything queued is written**: in a history in which no connection is reported CLOSING
ahead of its `CLOSED` notification (the atomic reading of the theorems above) the log of written frames is the log of
queued frames. -/
theorem C14_written_is_queued (env : Env) (h : List SOp) (hno : ∀ op, op ∈ h → isCloseBegin op = false) :
    (runS env h).sent = (runS env h).log ∧ (runS env h).closing = [] := by
  refine List.foldlRecOn (motive := fun st => st.sent = st.log ∧ st.closing = []) h (stepS env)
    (b := SState.init) ⟨rfl, rfl⟩ (fun st hst op hop => ?_)
  obtain ⟨h1, h2⟩ := hst
  cases op with
  | tree _ | addBegin _ => exact ⟨h1, by simp [stepS, stillAdding, h2]⟩
  | search r => exact ⟨by simp [stepS, h1, h2, written_nil], h2⟩
  | closeBegin c => cases hno _ hop
  | addEnd _ | credentials _ => exact ⟨h1, h2⟩

/-- **Never back to the parent's USER, over small-step histories.** For every carrier logged by a small-step history
(adds in progress, closing windows, credential changes included) there is the prefix `h'` handled before it such that
every frame queued on a distributed connection `c` went to a current child of that state, and — if there was a parent
`p` then — `c` is not the parent's connection and the user of `c` is not the parent's user: a second connection of the
parent's user is never served, whether or not the potential-parents cache still remembers the name
(`checkNewChild` refuses by `parentName`, `checkNewParent` by `isChildName`; C13's invariant `pnc`). -/
theorem C14_never_back_to_parent_user (env : Env) (h : List SOp) (e : Req × List Out) (he : e ∈ (runS env h).log)
    (o : Out) (ho : o ∈ e.2) (c : ConnId) (hc : o.toConn c = true) :
    ∃ h', h' <+: h ∧ c ∈ (runS env h').d.children ∧
      ∀ p, (runS env h').d.parent = some p →
        p ≠ c ∧ (runS env h').d.name c ≠ (runS env h').d.name p := by
  obtain ⟨h', hp, heq⟩ := log_history env h e he
  rw [heq, runS_state] at ho
  have hn := C14_not_to_others env (treeOps h') e.1 o c ho hc
  refine ⟨h', hp, ?_, fun p hpar => ?_⟩
  · rw [runS_state]; exact hn.1
  · rw [runS_state] at hpar ⊢
    exact ⟨fun hpc => hn.2.1 (hpc ▸ hpar), hn.2.2.1 p hpar⟩

/-- **The configured login name is irrelevant.** Assigning `settings.credentials.username` while the session lasts
(`SOp.credentials n`, any number of times, anywhere in a small-step history) changes nothing: the tree, everything
queued and everything written for every carrier, the adds in progress and the closing connections are those of the
history with the assignments left out. "The logged-in user" is the session's user (`DState.session`), not the
configuration for the next login. -/
theorem C14_configured_name_irrelevant (env : Env) (h : List SOp) :
    (runS env h).d = (runS env (h.filter (fun op => !isCredentials op))).d ∧
    (runS env h).log = (runS env (h.filter (fun op => !isCredentials op))).log ∧
    (runS env h).sent = (runS env (h.filter (fun op => !isCredentials op))).sent ∧
    (runS env h).adding = (runS env (h.filter (fun op => !isCredentials op))).adding ∧
    (runS env h).closing = (runS env (h.filter (fun op => !isCredentials op))).closing := by
  have hf : forget (runS env h) = runS env (h.filter (fun op => !isCredentials op)) := forget_foldl env h _
  rw [← hf]
  exact ⟨rfl, rfl, rfl, rfl, rfl⟩

/-- **Own = the session's user, whatever is configured.** Right after the configured name was set to `n` (any `n`, the
session's own name or another account): a carrier of the session's user is neither forwarded nor answered, and every
other search carrier — the one of user `n` included — goes to every current child, fields preserved. -/
theorem C14_own_is_session_user (env : Env) (h : List SOp) (n : Name) (r : Req) :
    (runS env (h ++ [.credentials n])).configured = some n ∧
    (runS env (h ++ [.credentials n])).d = (runS env h).d ∧
    ((runS env h).d.session = some r.user → handle env (runS env (h ++ [.credentials n])).d r = []) ∧
    ((runS env h).d.session ≠ some r.user → r.IsSearch →
      forward (runS env (h ++ [.credentials n])).d r =
        (runS env h).d.children.map (fun c => Out.fwd c r.outUnknown r.user r.ticket r.query)) := by
  have hd : (runS env (h ++ [.credentials n])).d = (runS env h).d := by rw [runS_snoc]; rfl
  refine ⟨by rw [runS_snoc]; rfl, hd, fun hown => ?_, fun hown hs => ?_⟩
  · rw [hd]; exact (C14_own_silent env _ r hown).1
  · rw [hd]; exact forward_foreign _ r hown hs

/-- **What a protocol-following peer can read.** Every frame queued for a carrier is written in the form the protocol
prescribes for its connection, whichever port the connection came through: a forwarded request travels on a distributed
connection and is written IN THE CLEAR — also to a child that connected to the obfuscated listening port (only its
PeerInit was obfuscated) —, a reply travels on a peer connection and is obfuscated exactly when that connection goes
through an obfuscated port. (`wireObf` is the table `obfAfterInit`, read off `Network._finalize_peer_connection` /
`PeerConnection.set_connection_state` at every run; finite, hence `decide`.) -/
theorem C14_wire_form (env : Env) (s : DState) (r : Req) (o : Out) (_ho : o ∈ handle env s r) (viaObf : Bool) :
    (∀ c unk u t q, o = Out.fwd c unk u t q → wireObf o.connType viaObf = false) ∧
    (∀ to t me v l, o = Out.reply to t me v l → wireObf o.connType viaObf = viaObf) := by
  have table : ∀ (t : ConnType) (via : Bool), wireObf t via = (decide (t = ConnType.peer) && via) := by
    intro t via; cases t <;> cases via <;> decide
  refine ⟨fun c unk u t q ho => ?_, fun to t me v l ho => ?_⟩
  · subst ho; rw [table]; rfl
  · subst ho; rw [table]; cases viaObf <;> rfl

/-! Non-vacuity. A reachable state with a session (user 0), a parent (connection 2, user 3), two children
(connections 0 and 1, users 1 and 2) and a candidate (connection 3, user 4: proposed after the parent was
chosen, has not announced anything). A foreign search from user 5 with matches is forwarded to exactly the two
children and answered; the own search is silent; after child 0 left, only child 1 receives the next one. -/
def demo : List Op :=
  [.sessionInit 0, .initialized 1 false, .initialized 2 false, .potentialParents [3], .initialized 3 true,
   .level 2 1, .root 2 7, .potentialParents [4], .initialized 4 true]

def demoEnv : Env where
  answer := fun u q => if q = "rock" then (["a"], if u = 5 then ["b"] else []) else ([], [])
  blocked := fun u => u == 7

example : (run demo).session = some 0 ∧ (run demo).parent = some 2 ∧ (run demo).children = [0, 1] ∧
    (run demo).live = [0, 1, 2, 3] := by decide
example : handle demoEnv (run demo) ⟨.distributed 49, 5, 77, "rock"⟩ =
    [.fwd 0 49 5 77 "rock", .fwd 1 49 5 77 "rock", .reply 5 77 0 ["a"] ["b"]] := by decide
example : handle demoEnv (run demo) ⟨.legacy 3 1, 6, 78, "jazz"⟩ =
    [.fwd 0 legacyUnknown 6 78 "jazz", .fwd 1 legacyUnknown 6 78 "jazz"] := by decide
example : handle demoEnv (run demo) ⟨.server 3 49, 0, 79, "rock"⟩ = [] := by decide
example : handle demoEnv (run (demo ++ [.closed 0])) ⟨.distributed 49, 5, 80, "rock"⟩ =
    [.fwd 1 49 5 80 "rock", .reply 5 80 0 ["a"] ["b"]] := by decide
example : (⟨.distributed 49, 5, 77, "rock"⟩ : Req).IsSearch ∧ demoEnv.hasMatch 5 "rock" ∧
    ¬ (⟨.legacy 4 1, 5, 77, "rock"⟩ : Req).IsSearch := by decide

/-! A small-step history: session, child 0, then user 2 connects (connection 1) and its add is suspended; the server's
search handled meanwhile goes to both; the connection of the suspended add is closed (e.g. write time-out): the next
search goes to child 0 only. -/
def demoS : List SOp :=
  [.tree (.sessionInit 0), .tree (.initialized 1 false), .addBegin 2, .search ⟨.server 3 49, 5, 77, "rock"⟩,
   .tree (.closed 1), .search ⟨.server 3 49, 5, 78, "rock"⟩, .addEnd 1]

example : (runS demoEnv (demoS.take 3)).adding = [1] ∧ (runS demoEnv (demoS.take 3)).d.children = [0, 1] ∧
    (runS demoEnv (demoS.take 3)).d.toldL 1 = some 0 := by decide
example : (runS demoEnv demoS).log =
    [(⟨.server 3 49, 5, 77, "rock"⟩, [.fwd 0 49 5 77 "rock", .fwd 1 49 5 77 "rock", .reply 5 77 0 ["a"] ["b"]]),
     (⟨.server 3 49, 5, 78, "rock"⟩, [.fwd 0 49 5 78 "rock", .reply 5 78 0 ["a"] ["b"]])] ∧
    (runS demoEnv demoS).adding = [] := by decide

/-! A closing window: session, children 0, 1, 2; child 0 (first of the list) is reported CLOSING; the search handled
meanwhile is queued for all three and written to 1 and 2; a second child (1) starts closing too: the next search reaches 2
only; after both CLOSED notifications the list is `[2]`. -/
def demoC : List SOp :=
  [.tree (.sessionInit 0), .tree (.initialized 1 false), .tree (.initialized 2 false), .tree (.initialized 3 false),
   .closeBegin 0, .search ⟨.server 3 49, 5, 77, "rock"⟩, .closeBegin 1, .search ⟨.server 3 49, 5, 78, "rock"⟩,
   .tree (.closed 0), .tree (.closed 1), .search ⟨.server 3 49, 5, 79, "rock"⟩]

example : (runS demoEnv (demoC.take 5)).closing = [0] ∧ (runS demoEnv (demoC.take 5)).d.children = [0, 1, 2] := by decide
example : (runS demoEnv demoC).sent =
    [(⟨.server 3 49, 5, 77, "rock"⟩, [.fwd 1 49 5 77 "rock", .fwd 2 49 5 77 "rock", .reply 5 77 0 ["a"] ["b"]]),
     (⟨.server 3 49, 5, 78, "rock"⟩, [.fwd 2 49 5 78 "rock", .reply 5 78 0 ["a"] ["b"]]),
     (⟨.server 3 49, 5, 79, "rock"⟩, [.fwd 2 49 5 79 "rock", .reply 5 79 0 ["a"] ["b"]])] ∧
    (runS demoEnv demoC).closing = [] ∧ (runS demoEnv demoC).d.children = [2] := by decide
example : ((runS demoEnv demoC).log.map (fun e => e.2.length)) = [4, 4, 2] := by decide
example : wireObf .distributed true = false ∧ wireObf .peer true = true ∧ wireObf .peer false = false := by decide

/-! The configured name changes during the session (user 5's account is stored for the next login): a search of user 5 is
still passed on and answered, one of the session's user (0) is not. And the parent's user (1, connection 0) connecting a
second time after 20 further names were proposed is not a child: the parent's search reaches connection 21 (user 2) only. -/
def demoCr : List SOp :=
  [.tree (.sessionInit 0), .tree (.initialized 1 false), .credentials 5, .search ⟨.server 3 49, 5, 77, "rock"⟩,
   .search ⟨.server 3 49, 0, 78, "rock"⟩]

example : (runS demoEnv demoCr).configured = some 5 ∧ (runS demoEnv demoCr).d.session = some 0 ∧
    (runS demoEnv demoCr).log =
      [(⟨.server 3 49, 5, 77, "rock"⟩, [.fwd 0 49 5 77 "rock", .reply 5 77 0 ["a"] ["b"]]),
       (⟨.server 3 49, 0, 78, "rock"⟩, [])] := by decide

def demoPb : List Op :=
  [.sessionInit 0, .potentialParents [1], .initialized 1 true, .level 0 0,
   .potentialParents (List.replicate 20 3), .initialized 1 false, .initialized 2 false]

example : (run demoPb).parent = some 0 ∧ (1 ∉ (run demoPb).potential) ∧ (run demoPb).children = [2] ∧
    (run demoPb).name 1 = 1 ∧ 1 ∈ (run demoPb).live ∧
    forward (run demoPb) ⟨.distributed 49, 5, 77, "rock"⟩ = [.fwd 2 49 5 77 "rock"] := by decide

end AioslskVerif.C14
