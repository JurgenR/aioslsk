import AioslskVerif.Proofs.FileXfer
/-!
# C04 — COMPLETE means the whole file arrived intact; resuming never corrupts it

The model is the code AFTER `fixes/C04-zero-remaining.patch`, `fixes/C04-offset-send-failure.patch`,
`fixes/C04-upload-eof-wait-read-error.patch` and `fixes/C04-upload-failed-undelivered.patch`.

`F` is the remote file, `pre` what the local file holds before the first modelled attempt (a prefix of `F`
left by an earlier session, usually `[]`), `ops` ANY sequence of attempts / deliveries / cuts / user actions /
restarts: every `begin` is one attempt, `seg bs` makes `bs` readable (any segmentation), `eof` / `err` /
`beginCut` are the cut points, `pause` / `pauseWrite` / `queue` the user, `save` / `crash` a cache write and a
restart from it, `remote` a change of the shared file. `Honest F` restricts only what an honest uploader controls (announced size
`|F|`, bytes continue `F` at the offset it was sent); cuts stay arbitrary.
-/
namespace AioslskVerif.C04
open AioslskVerif.FileXfer

/-- **COMPLETE ⇒ the local file is the remote file**, for every file, every sequence of attempts, every
segmentation and every cut point, every `pause()` (also one that lands while a chunk is with the disk-write
thread) / `queue()`, every cache write and every restart from it (honest uploader of an unchanged file). -/
theorem C04_complete_exact (F pre : Bytes) (ops : List Op) (hpre : pre <+: F)
    (hon : Honest F (Dl.init pre) ops) (hc : (run (Dl.init pre) ops).st = .complete) :
    (run (Dl.init pre) ops).loc = F :=
  have ⟨hi, hh⟩ := honest_reach hpre hon
  hh.complete_exact hi hc

/-- **Whatever was cut, paused or restarted, wherever: the local file is a prefix of the remote file**, and
`bytes_transfered` equals its length while a download runs. -/
theorem C04_prefix_on_cut (F pre : Bytes) (ops : List Op) (hpre : pre <+: F)
    (hon : Honest F (Dl.init pre) ops) :
    (run (Dl.init pre) ops).loc <+: F ∧
    ((run (Dl.init pre) ops).st = .downloading → (run (Dl.init pre) ops).bt = (run (Dl.init pre) ops).loc.length) :=
  have ⟨hi, hh⟩ := honest_reach hpre hon
  ⟨hh.pre, hi.bt_len⟩

/-- **What a cut does to a running download**: a reset / read time-out gives INCOMPLETE, a close by the
sender gives COMPLETE when everything is there and FAILED("Cancelled") otherwise; in every case the
received bytes are kept, nothing is appended, and the connection is closed. -/
theorem C04_cut_outcome (d : Dl) (hs : d.st = .downloading) :
    (step d .err).st = .incomplete ∧ (step d .err).loc = d.loc ∧ (step d .err).closed = true ∧
    ((step d .eof).st = .complete ∧ d.filesize = d.bt ∨ (step d .eof).st = .failedCancelled ∧ d.filesize ≠ d.bt) ∧
    (step d .eof).loc = d.loc ∧ (step d .eof).closed = true ∧
    ∀ a, (step d (.beginCut a)) = d := by
  have he : step d .err = { d with st := .incomplete, closed := true } := by simp [step, hs]
  have hf : step d .eof = finish d := by simp [step, hs]
  rw [he, hf]
  refine ⟨rfl, rfl, rfl, finish_st d, rfl, rfl, fun a => ?_⟩
  simp [step, canBegin, hs]

/-- **Resume offset, whatever the counter says.** In EVERY state in which an attempt can start — in particular
with a `bytes_transfered` that lags behind the file (a chunk written but not counted when `pause()` cancelled the
task; a cache saved before more data arrived) or runs ahead of it (counted bytes lost with the process) — the
offset put on the wire is the size of the local file, and the counter is set to it. -/
theorem C04_resume_offset_any_counter (d : Dl) (a : Nat) (lim : Bool) (hb : canBegin d = true) :
    (step d (.begin a lim)).offset = d.loc.length ∧ (step d (.begin a lim)).bt = d.loc.length ∧
    (step d (.begin a lim)).loc = d.loc := by
  simp only [step, hb, if_true, begin]
  split <;> exact ⟨rfl, rfl, rfl⟩

/-- **Resume offset.** Every attempt that starts puts exactly the local file size on the wire, and (honest
uploader) what the uploader then sends — `F` from that offset — is exactly what is missing. -/
theorem C04_resume_offset (F pre : Bytes) (ops : List Op) (hpre : pre <+: F)
    (hon : Honest F (Dl.init pre) ops) (a : Nat) (lim : Bool)
    (hb : canBegin (run (Dl.init pre) ops) = true) :
    (step (run (Dl.init pre) ops) (.begin a lim)).offset = (run (Dl.init pre) ops).loc.length ∧
    (run (Dl.init pre) ops).loc ++ F.drop (step (run (Dl.init pre) ops) (.begin a lim)).offset = F := by
  have ho := (C04_resume_offset_any_counter (run (Dl.init pre) ops) a lim hb).1
  exact ⟨ho, by rw [ho]; exact prefix_drop (honest_reach hpre hon).2.pre⟩

/-- **Dishonest senders / changing announcements** (any bytes, any announced sizes — also another size in every
attempt —, too few, too many, wrong offset; any user action, any restart): COMPLETE is reached only with a local
file of exactly the size announced by the request of the attempt that completed (`ann` is set by `begin` from the
request and by nothing else). -/
theorem C04_dishonest (pre : Bytes) (hp : Bool) (ops : List Op) (hc : (run (Dl.init pre hp) ops).st = .complete) :
    (run (Dl.init pre hp) ops).loc.length = (run (Dl.init pre hp) ops).ann :=
  (inv_run ops _ (inv_init pre hp)).complete_size hc

/-- **The remote file changes between the attempts** (it grew, shrank, became empty, was replaced; the honest
uploader measures it again and announces the new size; `remote F'`): a download that reaches COMPLETE holds
exactly as many bytes as the file served in the attempt that completed, and from the offset of that attempt on it
IS that file. (What lies before the offset came from earlier versions of the file: the protocol has no means to
compare it, nothing is claimed about it here — see `C04_complete_exact_growing`.) -/
theorem C04_complete_served (pre F₀ : Bytes) (hp : Bool) (ops : List Op)
    (hon : HonestV { Dl.init pre hp with remote := F₀ } ops)
    (hc : (run { Dl.init pre hp with remote := F₀ } ops).st = .complete) :
    (run { Dl.init pre hp with remote := F₀ } ops).loc.length =
      (run { Dl.init pre hp with remote := F₀ } ops).served.length ∧
    (run { Dl.init pre hp with remote := F₀ } ops).loc.drop (run { Dl.init pre hp with remote := F₀ } ops).offset =
      (run { Dl.init pre hp with remote := F₀ } ops).served.drop (run { Dl.init pre hp with remote := F₀ } ops).offset :=
  have hi0 := (inv_init pre hp).set_remote F₀
  (ainv_run ops _ hi0 (ainv_init pre hp F₀) hon).complete_served (inv_run ops _ hi0) hc

/-- … and when the file only ever GROWS at its end (a log, a recording) the finished file is the whole remote
file as it was served in the attempt that completed — although its size was announced differently in every
attempt. -/
theorem C04_complete_exact_growing (pre F₀ : Bytes) (ops : List Op) (hpre : pre <+: F₀)
    (hon : HonestV { Dl.init pre with remote := F₀ } ops) (hg : Grows { Dl.init pre with remote := F₀ } ops)
    (hc : (run { Dl.init pre with remote := F₀ } ops).st = .complete) :
    (run { Dl.init pre with remote := F₀ } ops).loc = (run { Dl.init pre with remote := F₀ } ops).served :=
  have hi0 := (inv_init pre true).set_remote F₀
  (ginv_run ops _ hi0 (ginv_init pre F₀ true hpre) ⟨hon, hg⟩).complete_exact
    (ainv_run ops _ hi0 (ainv_init pre true F₀) hon) (inv_run ops _ hi0) hc

/-- **Upload COMPLETE ⇒ every byte from the negotiated offset was written and the peer closed** — for every
file, every offset the downloader may send (also beyond the size), every interleaving of chunks, write
errors, closes and re-attempts. -/
theorem C04_upload_complete (F : Bytes) (ops : List UOp) (hc : (urun F (Ul.init F) ops).st = .complete) :
    (urun F (Ul.init F) ops).sent = F.drop (urun F (Ul.init F) ops).offset ∧
    (urun F (Ul.init F) ops).peerClosed = true :=
  (uinv_run F ops _ (uinv_init F)).complete_sent hc

/-- **Progress (download).** From ANY state in which an attempt can start (never started, INCOMPLETE after a
reset / time-out, FAILED after a close) and whose local file is a prefix of `F` — by `C04_prefix_on_cut`
that is every state reached by any history of attempts and cuts against an honest uploader — one
fault-free attempt, the missing bytes `segs.flatten` arriving in ANY segmentation, with or without a
bandwidth limit, ends in COMPLETE with the local file equal to `F` and the connection closed by the
downloader. The number of missing bytes is the measure (`C04_progress_measure`). Includes the case that
nothing is missing (empty file, or everything had arrived before the cut): `segs.flatten = []` and the
attempt completes at once — the case the unfixed `receive_file` waited out for 180 s, for ever. -/
theorem C04_progress (F : Bytes) (d : Dl) (lim : Bool) (segs : List Bytes)
    (hb : canBegin d = true) (hsegs : d.loc ++ segs.flatten = F) :
    (run d (.begin F.length lim :: segs.map .seg)).st = .complete ∧
    (run d (.begin F.length lim :: segs.map .seg)).loc = F ∧
    (run d (.begin F.length lim :: segs.map .seg)).closed = true := by
  have hlen : F.length = d.loc.length + segs.flatten.length := by rw [← hsegs, List.length_append]
  have hrun : run d (.begin F.length lim :: segs.map .seg) = run (begin d F.length lim) (segs.map .seg) := by
    simp only [run, List.foldl_cons, step, hb, if_true]
  rw [hrun]
  by_cases hz : segs.flatten.length = 0
  · -- nothing is missing
    rw [List.eq_nil_of_length_eq_zero hz, List.append_nil] at hsegs
    obtain ⟨hc, hl, hcl⟩ := begin_complete d lim
    rw [← hsegs, run_not_downloading_segs _ _ (by rw [hc]; exact DState.noConfusion)]
    exact ⟨hc, hl, hcl⟩
  · obtain ⟨hr, hl, hf⟩ := begin_running d lim (show d.loc.length < F.length by omega)
    have h := run_segs_fed segs _ hr (by rw [hl, hf]; omega)
    obtain ⟨hc, hcl⟩ := h.done (by rw [hl, hf]; omega)
    exact ⟨hc, by rw [h.loc, hl]; exact hsegs, hcl⟩

/-- **Whatever happened before, one fault-free attempt finishes the file.** After ANY history against an honest
uploader — cuts at any byte, `pause()` with a chunk on disk that was never counted, `queue()`, a restart from a
cache saved at any earlier moment (stale counter, bytes lost with the process) — in which an attempt can start,
the attempt that delivers what is missing, in any segmentation, ends COMPLETE with the local file equal to `F`. -/
theorem C04_resume_completes (F pre : Bytes) (ops : List Op) (hpre : pre <+: F)
    (hon : Honest F (Dl.init pre) ops) (lim : Bool) (segs : List Bytes)
    (hb : canBegin (run (Dl.init pre) ops) = true)
    (hsegs : segs.flatten = F.drop (run (Dl.init pre) ops).loc.length) :
    (run (Dl.init pre) (ops ++ .begin F.length lim :: segs.map .seg)).st = .complete ∧
    (run (Dl.init pre) (ops ++ .begin F.length lim :: segs.map .seg)).loc = F := by
  have hrun : run (Dl.init pre) (ops ++ .begin F.length lim :: segs.map .seg) =
      run (run (Dl.init pre) ops) (.begin F.length lim :: segs.map .seg) := by
    simp only [run, List.foldl_append]
  rw [hrun]
  have := C04_progress F (run (Dl.init pre) ops) lim segs hb
    (by rw [hsegs]; exact prefix_drop (honest_reach hpre hon).2.pre)
  exact ⟨this.1, this.2.1⟩

/-- **Progress (download), measure step.** While a download runs against an honest uploader, a delivery
is consumed completely and exactly (nothing lost, nothing beyond it written): the number of missing bytes
`|F| - |local|` drops by the size of the delivery, and the download is COMPLETE precisely when it hits 0. -/
theorem C04_progress_measure (F pre : Bytes) (ops : List Op) (hpre : pre <+: F)
    (hon : Honest F (Dl.init pre) ops) (bs : Bytes)
    (hs : (run (Dl.init pre) ops).st = .downloading)
    (hbs : bs <+: F.drop (run (Dl.init pre) ops).loc.length) :
    (step (run (Dl.init pre) ops) (.seg bs)).loc = (run (Dl.init pre) ops).loc ++ bs ∧
    ((run (Dl.init pre) ops).loc ++ bs = F → bs ≠ [] → (step (run (Dl.init pre) ops) (.seg bs)).st = .complete) ∧
    ((run (Dl.init pre) ops).loc ++ bs ≠ F → (step (run (Dl.init pre) ops) (.seg bs)).st = .downloading) :=
  have ⟨hi, hh⟩ := honest_reach hpre hon
  have ⟨h1, h2, h3⟩ := seg_honest hi hh hs hbs
  ⟨h1, fun hall _ => h2 hall, h3⟩

/-- **Progress (upload).** For every offset within the file, once the downloader's offset is in, enough
fault-free `send_file` iterations followed by the peer's close end in COMPLETE (also for offset = size:
nothing is sent, the upload completes when the downloader closes). (`hq`: the task of an earlier, failed attempt is
not still busy telling the downloader — `manage_transfers` starts no second task beside it.) -/
theorem C04_progress_upload (F : Bytes) (ops : List UOp) (off n : Nat) (lim : Bool)
    (hb : (urun F (Ul.init F) ops).st = .queued ∨ (urun F (Ul.init F) ops).st = .failed ∨
          (urun F (Ul.init F) ops).st = .complete)
    (hq : (urun F (Ul.init F) ops).notifying = false)
    (hoff : off ≤ F.length) (hn : F.length - off + chunkOf lim ≤ n * chunkOf lim) :
    (urun F (urun F (Ul.init F) ops) (.begin off lim :: List.replicate n .chunk ++ [.closed])).st = .complete :=
  upload_completes (uinv_run F ops _ (uinv_init F)) off n lim ⟨hb, hq⟩ hoff hn

/-! ## The hand-shake values on the wire

Numbers are unbounded in the model, on the wire the ticket has 4 bytes and the offset 8. The widths the RECEIVERS use
(`Generated/XferWire.lean`) are regenerated from the code on every run; these theorems hold for 4/4 and 8/8 only. -/

/-- **The offset survives the wire, for every size a local file can have** (below 2^64, in particular beyond 4 GiB):
what `receive_transfer_offset` returns is the number `_initialize_download` sent, it takes exactly the 8 bytes from the
stream (whatever follows stays), and with fewer than 8 bytes delivered it keeps waiting (any segmentation). -/
theorem C04_wire_offset_exact (off : Nat) (rest : Bytes) (h : off < 2 ^ 64) :
    Wire.recvOffset (Wire.sendOffset off ++ rest) = some (off, rest) ∧
    ∀ s : Bytes, s.length < 8 → Wire.recvOffset s = none := by
  -- the widths regenerated from the code: all 8 bytes are taken from the stream, all 8 make up the number
  have hr : AioslskVerif.Generated.XferWire.offsetReadBytes = 8 := by decide
  have hd : AioslskVerif.Generated.XferWire.offsetDecodeBytes = 8 := by decide
  unfold Wire.recvOffset
  rw [hr, hd]
  exact Wire.recvValue_exact 8 off rest (by omega)

/-- … and the ticket (below 2^32: `uint32(ticket).serialize()` raises for more). -/
theorem C04_wire_ticket_exact (t : Nat) (rest : Bytes) (h : t < 2 ^ 32) :
    Wire.recvTicket (Wire.sendTicket t ++ rest) = some (t, rest) ∧
    ∀ s : Bytes, s.length < 4 → Wire.recvTicket s = none := by
  have hr : AioslskVerif.Generated.XferWire.ticketReadBytes = 4 := by decide
  have hd : AioslskVerif.Generated.XferWire.ticketDecodeBytes = 4 := by decide
  unfold Wire.recvTicket
  rw [hr, hd]
  exact Wire.recvValue_exact 4 t rest (by omega)

/-- **All 8 bytes are needed**: a receiver that takes the 8 bytes but makes its number of fewer of them (a helper
shared with the 4-byte ticket …) gets `offset mod 256^d` — for every such `d` there is an offset a real file can
have that arrives as another number (d = 4: every resume at or beyond 4 GiB). -/
theorem C04_wire_offset_all_bytes_needed (d : Nat) (hd : d < 8) :
    (∀ off rest, Wire.recvValue 8 d (Wire.sendOffset off ++ rest) = some (off % 256 ^ d, rest)) ∧
    ∃ off, off < 2 ^ 64 ∧ Wire.recvValue 8 d (Wire.sendOffset off) ≠ some (off, []) :=
  have ⟨hlt, hne⟩ := Wire.recvValue_narrow_wrong 8 d hd
  ⟨fun off rest => Wire.recvValue_narrow 8 d off rest (by omega), 256 ^ d, hlt, hne⟩

/-- **Resume offset, end to end.** In every state in which an attempt can start, with a local file of any size below
2^64: the 8 bytes the downloader writes are read by the uploader as exactly the size of the local file, and that is
where the uploader seeks to (`bytes_transfered = offset`, `handle.seek(offset)`) — by `C04_upload_complete` what it then
sends to completion is `F` from there on, by `C04_resume_offset` exactly what the downloader is missing. -/
theorem C04_resume_offset_wire (d : Dl) (a : Nat) (lim : Bool) (hb : canBegin d = true)
    (hlt : d.loc.length < 2 ^ 64) (F : Bytes) (u : Ul) (ulim : Bool)
    (hu : (u.st = .queued ∨ u.st = .failed ∨ u.st = .complete) ∧ u.notifying = false) :
    ∃ off, Wire.recvOffset (Wire.sendOffset (step d (.begin a lim)).offset) = some (off, []) ∧
      off = d.loc.length ∧
      (ustep F u (.begin off ulim)).offset = d.loc.length ∧ (ustep F u (.begin off ulim)).pos = d.loc.length ∧
      (ustep F u (.begin off ulim)).st = .sending := by
  have ho := (C04_resume_offset_any_counter d a lim hb).1
  refine ⟨d.loc.length, ?_, rfl, ?_⟩
  · rw [ho]
    have := (C04_wire_offset_exact d.loc.length [] hlt).1
    rwa [List.append_nil] at this
  · simp only [ustep]; rw [if_pos hu]; exact ⟨rfl, rfl, rfl⟩

/-- **FAILED first, then the message**: in every history of attempts, faults, re-requests and notification outcomes —
while `PeerUploadFailed` is being sent (it may take long: a new peer connection; it may fail) the upload has already
left UPLOADING (it is FAILED, or QUEUED again because the downloader re-requested it meanwhile), and an upload that is
sending / waiting for the close has no notification under way. So a re-request that arrives during the send is not
ignored, and an exception out of the send cannot leave the upload UPLOADING. -/
theorem C04_upload_failed_before_told (F : Bytes) (ops : List UOp) :
    ((urun F (Ul.init F) ops).notifying = true →
      (urun F (Ul.init F) ops).st = .failed ∨ (urun F (Ul.init F) ops).st = .queued) ∧
    ((urun F (Ul.init F) ops).st = .sending ∨ (urun F (Ul.init F) ops).st = .awaitEof →
      (urun F (Ul.init F) ops).notifying = false) :=
  have h := ninv_run F ops
  ⟨h, h.quiet⟩

/-- **What a network error does to a running upload**, whatever becomes of the message: a write error while sending and
a read error while waiting for the close give FAILED at once; when the message got out the upload stays FAILED and one
more `PeerUploadFailed` is on its way; when it could not be sent (no connection / the write failed) the upload is
QUEUED again — never COMPLETE, never left UPLOADING. -/
theorem C04_upload_fault_outcome (F : Bytes) (u : Ul) :
    (u.st = .sending → (ustep F u .werr).st = .failed ∧ (ustep F u .werr).notifying = true) ∧
    (u.st = .awaitEof → (ustep F u .rerr).st = .failed ∧ (ustep F u .rerr).notifying = true) ∧
    (u.notifying = true → u.st = .failed →
      (ustep F u .told).st = .failed ∧ (ustep F u .told).puf = u.puf + 1 ∧ (ustep F u .told).notifying = false ∧
      (ustep F u .untold).st = .queued ∧ (ustep F u .untold).puf = u.puf ∧ (ustep F u .untold).notifying = false) := by
  refine ⟨fun h => ?_, fun h => ?_, fun hn hf => ?_⟩
  · simp [ustep, h]
  · simp [ustep, h]
  · simp [ustep, hn, hf]

/-! ## The retry control plane (`FileXfer.Ctl`): "once faults stop, the pair finishes without user action"

Full statement: *after ANY history of attempts, resets (seen by the two ends in either order, any time apart),
time-outs of the hand-shake, message deliveries in any interleaving with the file-connection events, `pause()` /
`queue()`: when no further reset happens and nobody calls the API, every fair continuation ends with the download
COMPLETE (or waiting for the user because the USER paused / aborted it).* Proved below: (a) the invariant that makes
this possible — no re-queue request is ever lost (`C04_pair_no_requeue_lost`), over all op lists; (b) from every
reachable state in which nothing is in flight and no attempt is under way, ONE round of cycles, deliveries and a
fault-free attempt (whose data plane is `C04_progress`) completes both transfers (`C04_pair_progress_partial`).
Missing for the full statement: (c) that every fair fault-free continuation reaches such a quiescent state (a
termination argument over the messages and time-outs still pending) — exercised on the real pair (3600 virtual
seconds after the last fault) and by running the model's canonical continuation from every sampled real state, not
proved. Outside the alphabet: a downloader that gives up by its own 180 s read time-out closes the connection in an
orderly way; if its re-queue request overtakes that close the uploader ignores the one and takes the other for the
end of a complete upload — the protocol has no message that repairs this. -/

/-- **No re-queue request is lost.** In every state the pair can reach — any interleaving of management cycles,
message deliveries (FIFO per direction), hand-shake failures, resets learnt by either end first, control writes that
fail (`PeerUploadFailed` that cannot be delivered, a queue request or a reply that cannot be written), user actions —: a
download that is waiting for the uploader (`remotely_queued`, QUEUED or INCOMPLETE) is right to wait: the uploader
holds its request (QUEUED / being initialized / uploading) or will once the messages on their way to it have
arrived, or a `PeerUploadFailed` that ends the waiting is on its way; and a running download never has the flag.
(Before fixes/C04-upload-eof-wait-read-error.patch `uLearn` in the EOF wait ended COMPLETE without a message: the
invariant failed and the pair stayed INCOMPLETE / COMPLETE for ever — the witness case of `props/c04.py`. Before
fixes/C04-upload-failed-undelivered.patch `uLearnMute` left the upload FAILED with nothing in flight: the invariant
failed in the same way — second witness case.) -/
theorem C04_pair_no_requeue_lost (ops : List Ctl.Op) :
    Ctl.invB (Ctl.run Ctl.S.init ops) = true ∧
    (Ctl.retryable (Ctl.run Ctl.S.init ops).d = true → (Ctl.run Ctl.S.init ops).rq = true →
      Ctl.settleU (Ctl.uHolds (Ctl.run Ctl.S.init ops).u) (Ctl.run Ctl.S.init ops).toU = true ∨
      Ctl.ToD.puf ∈ (Ctl.run Ctl.S.init ops).toD) := by
  have h := Ctl.inv_run ops _ Ctl.inv_init
  exact ⟨h.invB, h.held⟩

/-- **Progress over attempts (partial: from quiescence).** After ANY history, in a state where nothing is in flight
and no attempt is under way, a download that is QUEUED or INCOMPLETE is finished by one fault-free round — the
downloader's cycle (re-)queues it remotely unless the uploader already holds it, the uploader's cycle offers it, the
reply, the file connection, the attempt — with no user action: both transfers COMPLETE, nothing left in flight. -/
theorem C04_pair_progress_partial (ops : List Ctl.Op)
    (hq : Ctl.quiescent (Ctl.run Ctl.S.init ops) = true)
    (hr : Ctl.retryable (Ctl.run Ctl.S.init ops).d = true) :
    (Ctl.run (Ctl.run Ctl.S.init ops) Ctl.round).d = .complete ∧
    (Ctl.run (Ctl.run Ctl.S.init ops) Ctl.round).u = .complete ∧
    Ctl.quiescent (Ctl.run (Ctl.run Ctl.S.init ops) Ctl.round) = true :=
  Ctl.round_completes _ (Ctl.inv_run ops _ Ctl.inv_init) hq hr

/-- **Every way the uploader can learn of a break leaves the downloader a way forward**: `PeerUploadFailed` is on its
way (the upload FAILED: a re-request re-queues it), or — it could not be delivered — the upload is back in the queue
and will be offered again. -/
theorem C04_pair_upload_fault_way_forward (s : Ctl.S) (h : s.u = .uploading ∨ s.u = .eofWait) :
    (Ctl.step s .uLearn).u = .failed ∧ Ctl.ToD.puf ∈ (Ctl.step s .uLearn).toD ∧
    Ctl.uHolds (Ctl.step s .uLearnMute).u = true ∧ (Ctl.step s .uLearnMute).toD = s.toD := by
  simp only [Ctl.step, h, if_true]
  simp [Ctl.uHolds]

/-! the witness schedule: all bytes written, the reset reaches the downloader first, its re-queue request is
ignored by the uploader that still waits for the close; then the uploader learns of the reset — FAILED +
PeerUploadFailed, the flag is cleared, the next round finishes the transfer -/
example : (Ctl.run Ctl.S.init [.dCycle, .uRecv, .uCycle, .dRecv, .uRecv, .fUp, .uWroteAll,
      .dLearn, .dCycle, .uRecv, .uLearn]).d = .incomplete ∧
    (Ctl.run Ctl.S.init [.dCycle, .uRecv, .uCycle, .dRecv, .uRecv, .fUp, .uWroteAll,
      .dLearn, .dCycle, .uRecv, .uLearn]).rq = true ∧
    (Ctl.run Ctl.S.init [.dCycle, .uRecv, .uCycle, .dRecv, .uRecv, .fUp, .uWroteAll,
      .dLearn, .dCycle, .uRecv, .uLearn]).u = .failed ∧
    (Ctl.run Ctl.S.init [.dCycle, .uRecv, .uCycle, .dRecv, .uRecv, .fUp, .uWroteAll,
      .dLearn, .dCycle, .uRecv, .uLearn]).toD = [.puf] := by decide +kernel
example : Ctl.quiescent (Ctl.run Ctl.S.init [.dCycle, .uRecv, .uCycle, .dRecv, .uRecv, .fUp, .uWroteAll,
      .dLearn, .dCycle, .uRecv, .uLearn, .dRecv]) = true ∧
    Ctl.retryable (Ctl.run Ctl.S.init [.dCycle, .uRecv, .uCycle, .dRecv, .uRecv, .fUp, .uWroteAll,
      .dLearn, .dCycle, .uRecv, .uLearn, .dRecv]).d = true := by decide +kernel

/-! the second witness schedule: as above, but `PeerUploadFailed` cannot be delivered (the peer connection broke
together with the file connection): the upload is QUEUED again, the state is quiescent, one round finishes -/
example : (Ctl.run Ctl.S.init [.dCycle, .uRecv, .uCycle, .dRecv, .uRecv, .fUp,
      .dLearn, .dCycle, .uRecv, .uLearnMute]).d = .incomplete ∧
    (Ctl.run Ctl.S.init [.dCycle, .uRecv, .uCycle, .dRecv, .uRecv, .fUp,
      .dLearn, .dCycle, .uRecv, .uLearnMute]).rq = true ∧
    (Ctl.run Ctl.S.init [.dCycle, .uRecv, .uCycle, .dRecv, .uRecv, .fUp,
      .dLearn, .dCycle, .uRecv, .uLearnMute]).u = .queued ∧
    Ctl.quiescent (Ctl.run Ctl.S.init [.dCycle, .uRecv, .uCycle, .dRecv, .uRecv, .fUp,
      .dLearn, .dCycle, .uRecv, .uLearnMute]) = true := by decide +kernel
/-! a reply that cannot be written, a queue request that cannot be written -/
example : (Ctl.run Ctl.S.init [.dCycle, .uRecv, .uCycle, .dRecvFail]).d = .queued ∧
    (Ctl.run Ctl.S.init [.dCycle, .uRecv, .uCycle, .dRecvFail]).rq = false ∧
    (Ctl.run Ctl.S.init [.dCycle, .uRecv, .uCycle, .dRecvFail]).u = .initializing ∧
    (Ctl.run Ctl.S.init [.dCycle, .uRecv, .uCycle, .dRecv, .uRecv, .fUp, .dLearn, .dCycleFail]).d = .queued := by decide +kernel
/-! the wire: a resume at 4 GiB + 5 arrives as it was sent; read as a 4-byte number it would arrive as 5 -/
example : Wire.recvOffset (Wire.sendOffset (2 ^ 32 + 5)) = some (2 ^ 32 + 5, []) := by
  have h := (C04_wire_offset_exact (2 ^ 32 + 5) [] (by omega)).1
  rwa [List.append_nil] at h
example : Wire.recvValue 8 4 (Wire.sendOffset (2 ^ 32 + 5)) = some (5, []) := by
  have h := (C04_wire_offset_all_bytes_needed 4 (by omega)).1 (2 ^ 32 + 5) []
  rwa [List.append_nil] at h
/-! a write error, the message cannot be sent, the downloader asks again, the next attempt -/
example : (urun [1, 2, 3] (Ul.init [1, 2, 3]) [.begin 0 true, .werr]).st = .failed ∧
    (urun [1, 2, 3] (Ul.init [1, 2, 3]) [.begin 0 true, .werr, .untold]).st = .queued ∧
    (urun [1, 2, 3] (Ul.init [1, 2, 3]) [.begin 0 true, .werr, .requeue, .untold]).st = .queued ∧
    (urun [1, 2, 3] (Ul.init [1, 2, 3]) [.begin 0 true, .werr, .told]).puf = 1 ∧
    (urun [1, 2, 3] (Ul.init [1, 2, 3]) [.begin 0 true, .werr, .untold, .begin 0 true, .chunk, .chunk, .closed]).st
      = .complete := by decide +kernel

/-! Non-vacuity: the hypotheses are met by non-trivial reachable histories (a 5-byte file, a cut after 2
bytes, a resumed attempt; a dishonest sender; an upload resumed at offset 2). -/
example : Honest [1, 2, 3, 4, 5] (Dl.init [])
    [.begin 5 true, .seg [1, 2], .err, .begin 5 false, .seg [3], .seg [4, 5]] := by
  simp only [Honest]; decide +kernel
example : (run (Dl.init []) [.begin 5 true, .seg [1, 2], .err]).st = .incomplete ∧
    (run (Dl.init []) [.begin 5 true, .seg [1, 2], .err]).loc = [1, 2] := by decide +kernel
example : (run (Dl.init []) [.begin 5 true, .seg [1, 2], .err, .begin 5 false, .seg [3], .seg [4, 5]]).st
    = .complete := by decide +kernel
example : (run (Dl.init []) [.begin 3 false, .seg [9, 9, 9, 9]]).st = .failedCancelled := by decide +kernel
example : (run (Dl.init []) [.begin 0 false]).st = .complete := by decide +kernel
/-! `pause()` while a chunk is with the disk-write thread: on disk (4 bytes), not counted (2); `queue()`, resume -/
example : (run (Dl.init []) [.begin 5 false, .seg [1, 2], .pauseWrite [3, 4]]).st = .paused ∧
    (run (Dl.init []) [.begin 5 false, .seg [1, 2], .pauseWrite [3, 4]]).bt = 2 ∧
    (run (Dl.init []) [.begin 5 false, .seg [1, 2], .pauseWrite [3, 4]]).loc = [1, 2, 3, 4] := by decide +kernel
example : Honest [1, 2, 3, 4, 5] (Dl.init [])
    [.begin 5 false, .seg [1, 2], .pauseWrite [3, 4], .queue, .begin 5 true, .seg [5]] := by
  simp only [Honest]; decide +kernel
example : (run (Dl.init []) [.begin 5 false, .seg [1, 2], .pauseWrite [3, 4], .queue, .begin 5 true]).offset = 4 ∧
    (run (Dl.init []) [.begin 5 false, .seg [1, 2], .pauseWrite [3, 4], .queue, .begin 5 true, .seg [5]]).st
      = .complete := by decide +kernel
/-! cache saved after 1 byte, 2 more arrive, the client dies: counter 1, file 3 bytes (or, bytes lost with the
process: counter 1, file empty); the new instance resumes at the file size -/
example : (run (Dl.init []) [.begin 5 false, .seg [1], .save, .seg [2, 3], .crash 3]).st = .incomplete ∧
    (run (Dl.init []) [.begin 5 false, .seg [1], .save, .seg [2, 3], .crash 3]).bt = 1 ∧
    (run (Dl.init []) [.begin 5 false, .seg [1], .save, .seg [2, 3], .crash 3]).loc = [1, 2, 3] ∧
    (run (Dl.init []) [.begin 5 false, .seg [1], .save, .seg [2, 3], .crash 0]).loc = [] ∧
    (run (Dl.init []) [.begin 5 false, .seg [1], .save, .seg [2, 3], .crash 3, .begin 5 false]).offset = 3 := by
  decide +kernel
/-! the remote file grows from 3 to 5 bytes between the attempts; a read ends exactly at the old end -/
example : HonestV { Dl.init [] with remote := [1, 2, 3] }
      [.begin 3 false, .seg [1, 2], .err, .remote [1, 2, 3, 4, 5], .begin 5 false, .seg [3], .seg [4, 5]] ∧
    Grows { Dl.init [] with remote := [1, 2, 3] }
      [.begin 3 false, .seg [1, 2], .err, .remote [1, 2, 3, 4, 5], .begin 5 false, .seg [3], .seg [4, 5]] := by
  simp only [HonestV, Grows]; decide +kernel
example : (run { Dl.init [] with remote := [1, 2, 3] }
      [.begin 3 false, .seg [1, 2], .err, .remote [1, 2, 3, 4, 5], .begin 5 false, .seg [3]]).st = .downloading ∧
    (run { Dl.init [] with remote := [1, 2, 3] }
      [.begin 3 false, .seg [1, 2], .err, .remote [1, 2, 3, 4, 5], .begin 5 false, .seg [3], .seg [4, 5]]).loc
      = [1, 2, 3, 4, 5] := by decide +kernel
/-! the remote file shrank below what the downloader holds: never COMPLETE -/
example : (run { Dl.init [] with remote := [1, 2, 3] }
      [.begin 3 false, .seg [1, 2], .err, .remote [1], .begin 1 false]).st = .failedCancelled := by decide +kernel
example : (urun [1, 2, 3, 4, 5] (Ul.init [1, 2, 3, 4, 5]) [.begin 2 true, .chunk, .chunk, .closed]).st
    = .complete := by decide +kernel
example : (urun [1, 2, 3] (Ul.init [1, 2, 3]) [.begin 3 true, .chunk, .closed]).st = .complete := by decide +kernel

end AioslskVerif.C04
