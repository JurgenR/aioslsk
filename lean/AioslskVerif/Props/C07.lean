import AioslskVerif.Proofs.Query
import AioslskVerif.Proofs.Shares
/-!
# C07 — a search over the shares returns exactly the files that match the query

The models (`Model/Query.lean`, `Model/Shares.lean`) are those of the code after `fixes/C07-wildcard-union.patch`,
`fixes/C07-term-map-follows-index.patch` and `fixes/C07-moved-items-rebased.patch`.

Characters are abstract (`Cls`); the only assumptions on them are `Cls.Lawful` (lower-casing is
idempotent and keeps the class of a character; `*` and `-` are not word characters), which the
harness checks for every character it uses.
-/
namespace AioslskVerif.C07
open AioslskVerif.Query AioslskVerif.Shares

section query
variable {Ch : Type} [DecidableEq Ch] (K : Cls Ch) {I : Type} [DecidableEq I] (qp : I → List Ch)

/-- The regular expressions built by `create_term_pattern` / `matchers_iter` (as a backtracking
matcher with look-behind and look-ahead) decide exactly the property's predicate: every include
term occurs as whole words, every wildcard term occurs after a run of word characters that starts
a word, no exclude term occurs as whole words — all case-insensitively. -/
theorem C07_regex_is_spec (q : Query Ch) (p : List Ch) :
    matchesRegex K q p = true ↔ MatchesSpec K q p :=
  matchesRegex_iff K q p

/-- What `SearchQuery.parse` produces: every include / wildcard term has a word character and is
lower-cased (the precondition of the prefilter theorem). -/
theorem C07_parse_wf (hK : K.Lawful) (s : List Ch) : (parse K s).WF K :=
  parse_wf K hK s

/-- **The term-map prefilter loses nothing**: an indexed item whose path matches the query (by the
regular expressions) is among the candidates of the first round — for every term map, every query
(terms with inner punctuation, several wildcard terms, suffixes shared by many words included). -/
theorem C07_prefilter_complete (hK : K.Lawful) (tm : List I) (q : Query Ch) (hq : q.WF K)
    (hi : q.hasInclusion = true) (it : I) (hit : it ∈ tm) (hm : matchesRegex K q (qp it) = true) :
    it ∈ prefilter K qp tm q :=
  mem_prefilter_of_matches K qp hK tm q hq hi it hit ((matchesRegex_iff K q _).1 hm)

/-- **A query returns exactly the matching items, capped**: there is a duplicate-free enumeration
`L` of precisely the items of the term map whose path satisfies the property's predicate (and the
extra per-item filter, `fun _ => true` for C07); the result is its first `cap` elements — so it is
a subset of the matching items of size `min cap |matching|`. -/
theorem C07_query_exact (hK : K.Lawful) (tm : List I) (htm : tm.Nodup) (q : Query Ch) (hq : q.WF K)
    (hi : q.hasInclusion = true) (cap : Nat) (hcap : 0 < cap) (extra : I → Bool) :
    ∃ L : List I, L.Nodup ∧
      (∀ it, it ∈ L ↔ it ∈ tm ∧ MatchesSpec K q (qp it) ∧ extra it = true) ∧
      query K qp cap extra tm q = L.take cap ∧
      (query K qp cap extra tm q).length = min cap L.length ∧
      (∀ it ∈ query K qp cap extra tm q, it ∈ L) := by
  refine ⟨(prefilter K qp tm q).filter (fun it => matchesRegex K q (qp it) && extra it), ?_, ?_, ?_⟩
  · exact (List.filter_sublist).nodup ((prefilter_sublist K qp tm q).nodup htm)
  · intro it
    simp only [List.mem_filter, Bool.and_eq_true, matchesRegex_iff]
    constructor
    · rintro ⟨h1, h2, h3⟩
      exact ⟨(prefilter_sublist K qp tm q).subset h1, h2, h3⟩
    · rintro ⟨h1, h2, h3⟩
      exact ⟨mem_prefilter_of_matches K qp hK tm q hq hi it h1 h2, h2, h3⟩
  · have heq : query K qp cap extra tm q =
        ((prefilter K qp tm q).filter (fun it => matchesRegex K q (qp it) && extra it)).take cap := by
      simp only [query, hi, Bool.not_true, Bool.false_eq_true, if_false]
      rw [keepLoop_eq _ _ cap _ [] (by simpa using hcap)]
      simp
    refine ⟨heq, ?_, ?_⟩
    · rw [heq, List.length_take]
    · intro it h
      rw [heq] at h
      exact List.mem_of_mem_take h

/-- A query without include and wildcard terms is answered with nothing (manager.py:696-698). -/
theorem C07_query_no_inclusion (tm : List I) (q : Query Ch) (hi : q.hasInclusion = false) (cap : Nat)
    (extra : I → Bool) : query K qp cap extra tm q = [] := by
  simp [query, hi]

end query

section index
variable {C : Type} [DecidableEq C]

/-- **The index is a partition by innermost shared directory**, after any history of
add / remove / update / scan / scan-all operations (any paths, any disk contents at each scan):
shared directories are distinct, no item is held twice, every item belongs to a shared directory
that is the innermost one containing its folder, and no absolute file path is indexed twice. -/
theorem C07_index_partition (ops : List (Op C)) :
    (run ops).paths.Nodup ∧ (run ops).items.Nodup ∧
    (∀ it ∈ (run ops).items, it.sd ∈ (run ops).paths ∧
        ∀ p ∈ (run ops).paths, p <+: it.dir → p <+: it.sd) ∧
    (∀ a ∈ (run ops).items, ∀ b ∈ (run ops).items, a.abs = b.abs → a = b) := by
  have h := inv_run ops
  exact ⟨h.paths_nodup, h.items_nodup, fun it hit => ⟨h.owner it hit, h.innermost it hit⟩,
    fun a ha b hb hab => abs_inj (run ops) h a b ha hb hab⟩

/-- After any history the term map holds exactly the items of the index, once each (so a removed
directory, a vanished file or a moved item no longer answers queries). -/
theorem C07_termmap_is_index (ops : List (Op C)) :
    (run ops).tm.Nodup ∧ ∀ it, it ∈ (run ops).tm ↔ it ∈ (run ops).items :=
  ⟨(inv_run ops).tm_nodup, (inv_run ops).tm_sync⟩

/-- A scan reconciles the directory with the disk: afterwards its items are exactly the files found
under it that are not inside a nested shared directory. -/
theorem C07_scan_reconciles (ops : List (Op C)) (p : List C) (disk : List (File C)) (hp : p ∈ (run ops).paths)
    (it : Item C) :
    it ∈ dirItems (scan (run ops) p disk).1 p ↔
      ∃ f ∈ disk, p <+: f.dir ∧ (∀ c ∈ (run ops).paths, c ≠ p → p <+: c → ¬ c <+: f.dir) ∧
        it = { sd := p, sub := f.dir.drop p.length, name := f.name } := by
  simp only [scan, hp, not_true_eq_false, if_false, dirItems, List.mem_filter, decide_eq_true_eq,
    mem_scanDir_items, mem_scanned]
  constructor
  · rintro ⟨h1 | h1, h2⟩
    · exact absurd h2 h1.2
    · exact h1
  · rintro ⟨f, hf, h3, h4, rfl⟩
    exact ⟨Or.inr ⟨f, hf, h3, h4, rfl⟩, rfl⟩

/-- `get_stats()` reports the index: the number of distinct absolute folders holding an indexed
file, and the number of indexed files. -/
theorem C07_stats (ops : List (Op C)) :
    stats (run ops) = ((Shares.dedup ((run ops).items.map Item.dir)).length, (run ops).items.length) :=
  stats_eq (run ops) (inv_run ops)

end index

/-- **End to end**: after any history, a query string with at least one include / wildcard term is
answered with the first `cap` elements of a duplicate-free enumeration of exactly the indexed items
whose query path (components joined by `sep`) satisfies the property's predicate. -/
theorem C07_query_over_index {Ch : Type} [DecidableEq Ch] (K : Cls Ch) (hK : K.Lawful) (sep : Ch)
    (ops : List (Op (List Ch))) (s : List Ch) (hi : (parse K s).hasInclusion = true) (cap : Nat) (hcap : 0 < cap) :
    ∃ L : List (Item (List Ch)), L.Nodup ∧
      (∀ it, it ∈ L ↔ it ∈ (run ops).items ∧ MatchesSpec K (parse K s) (qpath sep it)) ∧
      query K (qpath sep) cap (fun _ => true) (run ops).tm (parse K s) = L.take cap ∧
      (query K (qpath sep) cap (fun _ => true) (run ops).tm (parse K s)).length = min cap L.length := by
  obtain ⟨L, h1, h2, h3, h4, _⟩ := C07_query_exact K (qpath sep) hK (run ops).tm (inv_run ops).tm_nodup
    (parse K s) (parse_wf K hK s) hi cap hcap (fun _ => true)
  refine ⟨L, h1, ?_, h3, h4⟩
  intro it
  rw [h2, (inv_run ops).tm_sync]
  simp

/-! ## Non-vacuity: a lawful alphabet, a reachable nested index, queries with answers -/

namespace Ex
/-- 0 `a`, 1 `A`, 2 `b`, 3 `B`, 4 `.`, 5 space, 6 `*`, 7 `-` -/
def K : Cls (Fin 8) where
  isWord c := c.val < 4
  fold c := if c = 1 then 0 else if c = 3 then 2 else c
  isSpace c := c = 5
  star := 6
  dash := 7

example : K.Lawful := ⟨by decide, by decide, by decide, by decide⟩

/-- folders `m` = [[0]] and `m/b` = [[0],[2]]; files `m/aB.b`, `m/bB.b`, `m/b/A.a` -/
def disk : List (File (List (Fin 8))) :=
  [⟨[[0]], [0, 3, 4, 2]⟩, ⟨[[0]], [2, 3, 4, 2]⟩, ⟨[[0], [2]], [1, 4, 0]⟩]

def ops : List (Op (List (Fin 8))) :=
  [.add [[0]], .scan [[0]] disk, .add [[0], [2]], .remove [[0], [2]], .add [[0], [2]], .scanAll disk]

/-- the history reaches a nested index: two files under `m`, one under `m/b` (re-based) -/
example : (run ops).items =
    [⟨[[0]], [], [0, 3, 4, 2]⟩, ⟨[[0]], [], [2, 3, 4, 2]⟩, ⟨[[0], [2]], [], [1, 4, 0]⟩] := by decide +kernel
example : stats (run ops) = (2, 3) := by decide +kernel
/-- `*b` (suffix shared by the words `ab` and `bb`) finds both files; with cap 1 one of them -/
example : (parse K [6, 2]).hasInclusion = true := by decide +kernel
example : (query K (qpath 4) 5 (fun _ => true) (run ops).tm (parse K [6, 2])).length = 2 := by decide +kernel
example : (query K (qpath 4) 1 (fun _ => true) (run ops).tm (parse K [6, 2])).length = 1 := by decide +kernel
/-- `A.a -b`: include term with punctuation matches `m/b/A.a` case-insensitively -/
example : query K (qpath 4) 5 (fun _ => true) (run ops).tm (parse K [1, 4, 0, 5, 7, 2]) =
    [⟨[[0], [2]], [], [1, 4, 0]⟩] := by decide +kernel
end Ex

end AioslskVerif.C07
