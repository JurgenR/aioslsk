import AioslskVerif.Proofs.Cache
/-!
# C17 — transfers survive a restart: nothing lost, duplicated, or left "in progress"

The model is the code **with** `fixes/C17-cache-key-ambiguous.patch` applied (length-prefixed
user name in the hashed string, stale entries removed by key). `sha256(..).hexdigest()` is the
parameter `H`; every theorem that needs it assumes `Function.Injective H` explicitly (no axiom).
A database `db` is *arbitrary* in every theorem: it may hold records written under the previous
key format, legacy pickles, or garbage keys.

The cache can be written at any moment a write can really happen (`write_cache()` is synchronous and
public: an application's listener, a periodic writer, `stop()`): `C17_reports_match_list`,
`C17_restart_any_write` and `C17_remove_phases` are stated over histories in which `add()` /
`remove()` are split at their suspension points and writes / the end of the process occur anywhere.
-/
namespace AioslskVerif.C17
open AioslskVerif.Cache AioslskVerif.Generated.Cache

/-- **The hashed bytes determine the identity.** `str(len(user)) + ':' + user + path + str(dir.value)`,
UTF-8 encoded, is injective in (user, remote path, direction) — for all strings. -/
theorem C17_key_injective (u p u' p' : Str) (d d' : Dir) (h : keyBytes u p d = keyBytes u' p' d') :
    u = u' ∧ p = p' ∧ d = d' :=
  keyBytes_inj h

/-- The key of the unpatched code (`user + path + str(dir.value)`) is **not** injective: the defect
repaired by the patch (replayed on the real code by the check when the patch is absent). -/
theorem C17_old_key_collides :
    oldKeyBytes ['a', 'b'] ['c'] .download = oldKeyBytes ['a'] ['b', 'c'] .download ∧
    (['a', 'b'], ['c'], Dir.download) ≠ ((['a'], ['b', 'c'], Dir.download) : Str × Str × Dir) := by
  exact ⟨rfl, by decide⟩

/-- What one pickle round trip does to a transfer (`canon`): identity, local path, sizes, progress,
state, fail reason and all other persisted attributes are unchanged; the abort reason is unchanged
except that an ABORTED transfer without one gets `AbortReason.REQUESTED`; runtime-only parts are
reset (no listeners, no tasks, no `_offset`). -/
theorem C17_canon_fields (t : Transfer) :
    let c := canon t
    ident c = ident t ∧ c.state = t.state ∧ c.localPath = t.localPath ∧ c.filesize = t.filesize ∧
    c.bytes = t.bytes ∧ c.failReason = t.failReason ∧ c.remotelyQueued = t.remotelyQueued ∧
    c.placeInQueue = t.placeInQueue ∧ c.queueAttempts = t.queueAttempts ∧
    c.lastQueueAttempt = t.lastQueueAttempt ∧ c.uploadRequestAttempts = t.uploadRequestAttempts ∧
    c.lastUploadRequestAttempt = t.lastUploadRequestAttempt ∧
    c.startTime = t.startTime ∧ c.completeTime = t.completeTime ∧
    (¬ (t.abortReason = none ∧ t.state = .aborted) → c.abortReason = t.abortReason) ∧
    (t.abortReason = none ∧ t.state = .aborted → c.abortReason = some abortRequested.toList) ∧
    c.listeners = [] ∧ c.tasks = 0 ∧ c.hasOffset = false := by
  simp only [canon, ident, fixAbort, true_and, and_true]
  constructor
  · intro h; rw [if_neg h]
  · intro h; rw [if_pos h]

/-- **Legacy records.** A pickle that lacks `abort_reason` and/or carries `_offset` loads as the
same transfer with abort reason `None` (`REQUESTED` when ABORTED). -/
theorem C17_legacy_restore (t : Transfer) (lacksAbort carriesOffset : Bool) :
    restore { persist t with
                abortReason := if lacksAbort then none else some t.abortReason,
                hasOffset := carriesOffset }
      = some (canon { t with abortReason := if lacksAbort then none else t.abortReason }) := by
  cases lacksAbort <;> simp [restore, persist, stateOfValue_value, canon]

/-- **Round trip.** For transfers with pairwise distinct identity, written over *any* database:
reading yields exactly the written transfers (up to `canon`), each once. -/
theorem C17_roundtrip {K : Type} [DecidableEq K] (H : ByteArray → K) (hH : Function.Injective H)
    (db : Db K) (ts : List Transfer) (hnd : (ts.map ident).Nodup) :
    ∃ l, readAll (write H db ts) = some l ∧ l.Perm (ts.map canon) ∧ (l.map ident).Nodup := by
  have hk : (ts.map fun t => H (keyOf t)).Nodup := by
    unfold List.Nodup at hnd ⊢
    rw [List.pairwise_map] at hnd ⊢
    exact hnd.imp fun {a b} hab e => hab (keyOf_inj (hH e))
  have hp : (ts.reverse.map canon).Perm (ts.map canon) := (List.reverse_perm ts).map canon
  refine ⟨_, ?_, hp, (hp.map ident).nodup_iff.2 ?_⟩
  · unfold readAll
    rw [write_eq H db ts hk, ← List.map_reverse, List.map_map]
    exact restoreAll_map_persist ts.reverse
  · rw [List.map_map]
    exact hnd

/-- **Removed transfers are gone, mutated ones are current.** After a later `write` of the list
`ts'` (whatever was written before, under whatever key format) the cache holds exactly `ts'`:
in particular no transfer whose identity is not in `ts'` is read back. -/
theorem C17_removed_gone {K : Type} [DecidableEq K] (H : ByteArray → K) (hH : Function.Injective H)
    (db : Db K) (ts ts' : List Transfer) (hnd : (ts'.map ident).Nodup) :
    ∃ l, readAll (write H (write H db ts) ts') = some l ∧ l.Perm (ts'.map canon) ∧
      ∀ x ∈ l, ident x ∈ ts'.map ident := by
  obtain ⟨l, h1, h2, _⟩ := C17_roundtrip H hH (write H db ts) ts' hnd
  refine ⟨l, h1, h2, fun x hx => ?_⟩
  obtain ⟨t, ht, rfl⟩ := List.mem_map.1 (h2.mem_iff.1 hx)
  exact List.mem_map.2 ⟨t, ht, rfl⟩

/-- **Restart.** `store_data()` then `load_data()` in a new manager: the new manager holds exactly
the stored transfers (round-tripped, repaired, with the manager attached), each once, and emitted
one `TransferAddedEvent` per transfer. -/
theorem C17_restart {K : Type} [DecidableEq K] (H : ByteArray → K) (hH : Function.Injective H)
    (db : Db K) (ts : List Transfer) (hnd : (ts.map ident).Nodup) (i : Nat) :
    ∃ m', (Mgr.empty i).load (write H db ts) = some m' ∧
      m'.transfers.Perm (ts.map fun t => attach i (repair (canon t)).1) ∧
      m'.addedEvents = ts.length ∧ m'.id = i := by
  obtain ⟨l, h1, h2, h3⟩ := C17_roundtrip H hH db ts hnd
  obtain ⟨ht, ha⟩ := addAll_fresh l (Mgr.empty i) h3 (fun _ _ => List.not_mem_nil)
  refine ⟨(Mgr.empty i).addAll l, load_eq_some.2 ⟨l, h1, rfl⟩, ?_, ?_, addAll_id _ _⟩
  · have := h2.map (fun t => attach i (repair t).1)
    rw [List.map_map] at this
    rw [ht]
    exact this
  · rw [ha, h2.length_eq, List.length_map]
    exact Nat.zero_add _

/-- **What the user was told is what the manager lists — at every point of every history.** An identity
whose addition has been reported (and whose removal has not been asked for since) is listed, exactly
once; an identity whose removal has been reported (and whose addition has not been asked for since)
is not listed. So whatever `write_cache()` is handed, at whatever moment, agrees with the reports. -/
theorem C17_reports_match_list {K : Type} [DecidableEq K] (H : ByteArray → K) (s₀ : Sys K) (h₀ : GhostInv s₀)
    (ops : List Op) :
    let s := run H s₀ ops
    (s.mgr.transfers.map ident).Nodup ∧ (∀ i ∈ s.there, i ∈ s.mgr.transfers.map ident) ∧
      (∀ i ∈ s.gone, i ∉ s.mgr.transfers.map ident) := by
  obtain ⟨a, b, c⟩ := inv_run H ops h₀
  exact ⟨a, b, c⟩

/-- **Restart after a write at any point.** Take any history `ops₁` (operations suspended anywhere),
write the cache *there*, let anything else happen that does not write again (`ops₂`: operations
resume, new ones start, attributes change), and end the process. The new manager then holds exactly
the transfers that were listed at the moment of the write (round-tripped and repaired), each once —
in particular every transfer whose addition had been reported by then, and none whose removal had
been reported by then — and nothing is left suspended. Over *any* database the history started from. -/
theorem C17_restart_any_write {K : Type} [DecidableEq K] (H : ByteArray → K) (hH : Function.Injective H)
    (s₀ : Sys K) (h₀ : GhostInv s₀) (ops₁ ops₂ : List Op) (hq : ∀ o ∈ ops₂, o.quiet = true) :
    let w := run H s₀ ops₁
    let s := run H s₀ (ops₁ ++ [.store] ++ ops₂ ++ [.restart])
    s.mgr.transfers.Perm (w.mgr.transfers.map fun t => attach mgrId (repair (canon t)).1) ∧
    (s.mgr.transfers.map ident).Nodup ∧
    (∀ i ∈ w.there, i ∈ s.mgr.transfers.map ident) ∧
    (∀ i ∈ w.gone, i ∉ s.mgr.transfers.map ident) ∧
    s.mgr.addedEvents = w.mgr.transfers.length ∧ s.pending = [] := by
  intro w s
  have hw : GhostInv w := inv_run H ops₁ h₀
  obtain ⟨m', hload, hperm, hadd, _⟩ := C17_restart H hH w.db w.mgr.transfers hw.nodup mgrId
  -- the database at the end of the process is the one written at `w`
  have hdb : (run H (step H w .store).1 ops₂).db = write H w.db w.mgr.transfers := by
    rw [quiet_run_db H ops₂ _ hq]; rfl
  have hs : s = (doRestart (run H (step H w .store).1 ops₂)).1 := by
    show run H s₀ (ops₁ ++ [.store] ++ ops₂ ++ [.restart]) = _
    rw [run_append, run_append, run_append]
    rfl
  have hm : s.mgr = m' ∧ s.pending = [] := by
    rw [hs]
    unfold doRestart
    rw [hdb, hload]
    exact ⟨rfl, rfl⟩
  have hids : (s.mgr.transfers.map ident).Perm (w.mgr.transfers.map ident) := by
    rw [hm.1]
    refine (hperm.map ident).trans (List.Perm.of_eq ?_)
    rw [List.map_map]
    apply List.map_congr_left
    intro t _
    simp only [Function.comp, ident_attach, ident_repair, ident_canon]
  refine ⟨hm.1 ▸ hperm, hids.nodup_iff.2 hw.nodup, ?_, ?_, hm.1 ▸ hadd, hm.2⟩
  · intro i hi; exact hids.mem_iff.2 (hw.there i hi)
  · intro i hi h; exact hw.gone i hi (hids.mem_iff.1 h)

/-- **A transfer whose removal is in progress.** While `remove()` is suspended in a state listener of
its abort transition the transfer is still listed (a write there keeps it, with the aborted
attributes); once `TransferRemovedEvent` is being delivered it is not (a write there drops it). -/
theorem C17_remove_phases {K : Type} [DecidableEq K] (H : ByteArray → K) (s : Sys K) (h : GhostInv s)
    (id : Ident) (now : Nat) :
    ((step H s (.rmCall id now)).2 = .aborting →
      id ∈ (step H s (.rmCall id now)).1.mgr.transfers.map ident ∧
      (step H (step H s (.rmCall id now)).1 (.rmStep id)).2 = .announcing) ∧
    ((step H s (.rmCall id now)).2 = .announcing →
      id ∉ (step H s (.rmCall id now)).1.mgr.transfers.map ident ∧ id ∈ (step H s (.rmCall id now)).1.gone) := by
  rw [show step H s (.rmCall id now) = doRmCall s id now true from rfl]
  fun_cases doRmCall s id now true
  next => exact ⟨nofun, nofun⟩ -- not listed
  next => exact ⟨nofun, nofun⟩ -- another removal of `id` is in progress
  next q hq hrem _ q' hq' _ _ => -- aborted first, the listener suspended
    refine ⟨fun _ => ⟨?_, ?_⟩, nofun⟩
    · have hqi : ident q = id := by simpa using List.find?_some hq
      show id ∈ (s.mgr.transfers.map _).map ident
      rw [ids_replace ((abortEffect_ident hq').trans hqi)]
      exact hqi ▸ List.mem_map_of_mem (List.mem_of_find?_eq_some hq)
    · -- no other removal of `id` is in progress, so the step resumes this one
      have hf : (s.pending ++ [({ id := id, phase := .aborting, tainted := false } : Pending)]).find?
          (fun p => p.id = id ∧ p.phase ≠ .adding) = some { id := id, phase := .aborting, tainted := false } := by
        rw [List.find?_append, List.find?_eq_none.2 fun p hp => ?_]
        · simp
        · exact fun hc => hrem (List.any_eq_true.2 ⟨p, hp, hc⟩)
      exact doRmStep_aborting hf rfl
  next => exact ⟨nofun, nofun⟩ -- aborted first, no listener suspended
  next => -- nothing to abort, the listener suspended
    exact ⟨nofun, fun _ => ⟨not_mem_ids_eraseP id _ h.nodup, List.mem_cons_self⟩⟩
  next => exact ⟨nofun, nofun⟩ -- nothing to abort, no listener suspended

/-- **Repair table** (finite: every persisted state × `is_transfered()`): was-initialising ↦ QUEUED,
was-transferring ↦ COMPLETE if all bytes had arrived else INCOMPLETE, every other state unchanged;
`repair` follows the table; and "in progress" (`is_processing`) means exactly
INITIALIZING / DOWNLOADING / UPLOADING. The state sets come from the regenerated tables. -/
theorem C17_repair_mapping :
    (∀ (s : St) (transfered : Bool), repairState s transfered =
      match s, transfered with
      | .initializing, _ => .queued
      | .downloading, true => .complete
      | .downloading, false => .incomplete
      | .uploading, true => .complete
      | .uploading, false => .incomplete
      | s, _ => s) ∧
    (∀ t : Transfer, (repair t).1.state = repairState t.state (isTransfered t)) ∧
    (∀ s : St, isProcessing s = true ↔ (s = .initializing ∨ s = .downloading ∨ s = .uploading)) ∧
    (∀ t : Transfer, isTransfered t = true ↔ t.filesize = some t.bytes) := by
  refine ⟨?_, repair_state, ?_, ?_⟩
  · intro s b
    unfold repairState
    rw [isTransferring_eq]
    cases s <;> cases b <;> rfl
  · intro s; rw [isProcessing_eq, decide_eq_true_iff]
  · intro t; simp [isTransfered]

/-- the persisted attributes of the model record are exactly the attributes `Transfer.__init__`
assigns minus `_UNPICKABLE_FIELDS` (both regenerated from the source) -/
theorem C17_fields_pinned :
    initFields.filter (fun f => !unpickable.contains f) = persistedFields := by
  simp [initFields, unpickable, persistedFields]

/-- **Nothing is left in progress.** After `load_data()` on *any* database, every transfer the load
added is not INITIALIZING / DOWNLOADING / UPLOADING, has its remote-queue mark cleared, its state is
the repair-table image of a persisted state, and the repair itself notified nobody. -/
theorem C17_no_in_progress {K : Type} (m m' : Mgr) (db : Db K) (h : m.load db = some m') :
    ∀ t ∈ m'.transfers, t ∈ m.transfers ∨
      (isProcessing t.state = false ∧ t.remotelyQueued = false ∧
       ∃ (r : Rec) (x : Transfer), r ∈ db.map (·.2) ∧ restore r = some x ∧ t = attach m.id (repair x).1 ∧
         t.state = repairState x.state (isTransfered x) ∧ (repair x).2 = []) := by
  intro t ht
  obtain ⟨l, hr, rfl⟩ := load_eq_some.1 h
  refine (mem_addAll l m t ht).imp_right fun ⟨x, hx, e⟩ => ?_
  obtain ⟨r, hr', hx'⟩ := restoreAll_mem hr hx
  obtain ⟨hq, hp, hs⟩ := registered_marks m.id x
  subst e
  exact ⟨hp, hq, r, x, hr', hx', rfl, hs, repair_notifications x (restore_runtime hx').1⟩

/-- **Loaded transfers are wired like fresh ones.** After `load_data()` every added transfer has
exactly the manager as state listener, holds no task and no `_offset`; hence any later state
change is reported to the manager exactly once — as for a transfer created by `download()`. -/
theorem C17_listener_attached {K : Type} (m m' : Mgr) (db : Db K) (h : m.load db = some m') :
    (∀ t ∈ m'.transfers, t ∈ m.transfers ∨
      (t.listeners = [m.id] ∧ t.tasks = 0 ∧ t.hasOffset = false ∧
       ∀ s, (transition t s).2 = [(m.id, t.state, s)])) ∧
    (∀ u p d, (fresh m.id u p d).listeners = [m.id] ∧ (fresh m.id u p d).tasks = 0 ∧
       ∀ s, (transition (fresh m.id u p d) s).2 = [(m.id, .virgin, s)]) := by
  refine ⟨?_, fun u p d => ⟨rfl, rfl, fun s => rfl⟩⟩
  intro t ht
  obtain h1 | ⟨_, _, r, x, _, hx, rfl, _, _⟩ := C17_no_in_progress m m' db h t ht
  · exact .inl h1
  · right
    obtain ⟨hl, htk, ho⟩ := restore_runtime hx
    have hl' : (attach m.id (repair x).1).listeners = [m.id] := by
      rw [repair_fst]; show x.listeners ++ [m.id] = _; rw [hl]; rfl
    refine ⟨hl', by rw [repair_fst]; exact htk, by rw [repair_fst]; exact ho, fun s => ?_⟩
    rw [transition, hl']; rfl

/-- **Scheduling picks loaded downloads up.** For a transfer added by the load, membership in the
scheduler's eligible downloads depends only on user status, direction, state and fail reason — the
persisted remote-queue mark no longer blocks it. So a download persisted as INITIALIZING (now
QUEUED), as DOWNLOADING with bytes missing (now INCOMPLETE), or as QUEUED/INCOMPLETE with the
remote-queue mark set, is picked up by the next management cycle. -/
theorem C17_schedulable_download {K : Type} (m m' : Mgr) (db : Db K) (h : m.load db = some m')
    (offline : Str → Bool) :
    ∀ t ∈ m'.transfers, t ∈ m.transfers ∨
      (t ∈ (eligible offline m'.transfers).1 ↔
        (offline t.user = false ∧ t.dir = .download ∧
          (t.state = .queued ∨ t.state = .incomplete ∨ (t.state = .failed ∧ t.failReason = none)))) := by
  intro t ht
  obtain h1 | ⟨_, hrq, _⟩ := C17_no_in_progress m m' db h t ht
  · exact .inl h1
  · right
    rw [eligible_downloads]
    simp only [List.mem_filter, ht, true_and, downloadWanted, hrq, Bool.and_eq_true, Bool.not_eq_true',
      decide_eq_true_eq, Bool.or_eq_true, or_assoc]

/-- **Scheduling picks loaded uploads up.** After a load into a new manager no user counts as
"uploading" (nothing is in progress), every user who is not offline and has a QUEUED upload gets one
of their uploads into the eligible list, and the eligible list holds only QUEUED uploads of the
manager. -/
theorem C17_schedulable_upload {K : Type} (i : Nat) (m' : Mgr) (db : Db K)
    (h : (Mgr.empty i).load db = some m') (offline : Str → Bool) :
    uploadingUsers m'.transfers = [] ∧
    (∀ t ∈ m'.transfers, offline t.user = false → t.dir = .upload → t.state = .queued →
      ∃ t' ∈ (eligible offline m'.transfers).2, t'.user = t.user) ∧
    (∀ t' ∈ (eligible offline m'.transfers).2,
      t' ∈ m'.transfers ∧ offline t'.user = false ∧ t'.dir = .upload ∧ t'.state = .queued) := by
  have hup : uploadingUsers m'.transfers = [] := by
    unfold uploadingUsers
    rw [List.map_eq_nil_iff, List.filter_eq_nil_iff]
    intro t ht
    obtain h1 | ⟨hp, _⟩ := C17_no_in_progress _ m' db h t ht
    · simp [Mgr.empty] at h1
    · simp [hp]
  have key := sched_uploads offline (uploadingUsers m'.transfers) m'.transfers ([], [], [])
  simp only at key
  obtain ⟨_, k2, k3, k4⟩ := key
  refine ⟨hup, ?_, ?_⟩
  · intro t ht h1 h2 h3
    have hu := k2 t ht h1 h2 (by rw [hup]; simp) h3
    exact k3 (by simp) _ hu
  · intro t' ht'
    rcases k4 t' ht' with h0 | ⟨a, b, c, d, _⟩
    · simp at h0
    · exact ⟨a, b, c, d⟩

/-! `read_cache()` awaits the listeners of `TransferAddedEvent` after every entry it registers, and anything else can
run while one of them is suspended. The histories below contain `loadCall order` and `loadStep` (`Model/Cache.lean`)
among all the other operations; `C17_reports_match_list` above holds of such histories as well. -/

/-- **Each exactly once — also when the read is interleaved with other operations.** Start loading ANY database
(any key format, one transfer under two keys, …) in any order, let any operations that are not removals happen
between the phases of the read (additions of identities the loop has yet to reach, of other identities, suspended
additions, attribute changes, writes, environment rewrites), until the read has ended. Then the manager lists every
identity once, every transfer of the cache is there, and the list agrees with what was reported. -/
theorem C17_load_interleaved {K : Type} [DecidableEq K] (H : ByteArray → K) (s : Sys K) (order : List Ident)
    (ops : List Op) (hk : ∀ o ∈ ops, o.keeps = true)
    (hload : (step H s (.loadCall order)).2 ≠ .loadError)
    (hdone : (run H (step H s (.loadCall order)).1 ops).loading = none) :
    let e := run H (step H s (.loadCall order)).1 ops
    (e.mgr.transfers.map ident).Nodup ∧
    (∀ r ∈ s.db, ∀ x, restore r.2 = some x → ident x ∈ e.mgr.transfers.map ident) ∧
    (∀ i ∈ e.there, i ∈ e.mgr.transfers.map ident) ∧ (∀ i ∈ e.gone, i ∉ e.mgr.transfers.map ident) := by
  intro e
  have hinv : GhostInv e := inv_run H ops (inv_doLoadCall s order)
  refine ⟨hinv.nodup, ?_, hinv.there, hinv.gone⟩
  intro r hr x hx
  cases hl : readAll s.db with
  | none => exact absurd (by simp only [step, doLoadCall, hl]) hload
  | some l =>
    obtain ⟨y, hy, hy'⟩ := restoreAll_complete hl (List.mem_map_of_mem (f := (·.2)) hr)
    cases hx.symm.trans hy'
    -- the first phase heads for a list with every entry; no later operation loses one; at the end that list is the manager's
    have h0 : ident x ∈ (doLoadCall s order).1.loadTarget.transfers.map ident := by
      rw [doLoadCall_target hl]
      exact mem_ids_addAll.2 (.inr (List.mem_map_of_mem ((mem_readOrder order l x).2 hy)))
    have h1 := mem_ids_target.1 (keeps_run_target_ids H ops (step H s (.loadCall order)).1 hk h0)
    rw [hdone] at h1
    exact h1.resolve_right List.not_mem_nil

/-- **The phases add up to the load.** When nothing else runs between the phases of the read, the manager it ends
with is exactly the one the uninterrupted `load_data()` builds from the same entries in the same order — so all that
is proved of `restart` above (`C17_restart`, `C17_no_in_progress`, `C17_listener_attached`, `C17_schedulable_*`)
holds of a read that merely *suspends*; for `order = []` it is the manager of `restart` itself. -/
theorem C17_load_phases_add_up {K : Type} [DecidableEq K] (H : ByteArray → K) (s : Sys K) (order : List Ident)
    (n : Nat) (l : List Transfer) (hl : readAll s.db = some l) :
    let e := run H (step H s (.loadCall order)).1 (List.replicate n .loadStep)
    (e.loading = none → e.mgr = (Mgr.empty mgrId).addAll (readOrder order l)) ∧
    (order = [] → e.loading = none → e.mgr = (step H s .restart).1.mgr) := by
  intro e
  have key : e.loading = none → e.mgr = (Mgr.empty mgrId).addAll (readOrder order l) := by
    intro hn
    have h : e.loadTarget = (doLoadCall s order).1.loadTarget := run_replicate_loadStep H n _
    rw [doLoadCall_target hl, Sys.loadTarget, hn] at h
    exact h
  refine ⟨key, fun ho hn => ?_⟩
  rw [key hn, ho]
  simp only [step, doRestart, Mgr.load, hl, Option.map_some, readOrder]

/-- **What a phase of the read registers** is the repaired image of a cache entry: remote-queue mark cleared, not
in progress, state by the repair table — exactly as in the uninterrupted load (`C17_no_in_progress`). -/
theorem C17_load_phase_marks {K : Type} (s : Sys K) (l : List Transfer) :
    ∀ t ∈ (loadRun s l).1.mgr.transfers, t ∈ s.mgr.transfers ∨
      ∃ x ∈ l, t = attach s.mgr.id (repair x).1 ∧ t.remotelyQueued = false ∧ isProcessing t.state = false ∧
        t.state = repairState x.state (isTransfered x) := by
  intro t ht
  refine (loadRun_registers l s t ht).imp_right fun ⟨x, hx, e⟩ => ?_
  obtain ⟨hq, hp, hs⟩ := registered_marks s.mgr.id x
  subst e
  exact ⟨x, hx, rfl, hq, hp, hs⟩

/-- **A cache written by the previous release.** Whatever the cache holds, put into it the entry the pinned writer
(`persist` = `Transfer.__getstate__` as pinned by `C17_fields_pinned`) leaves for ANY transfer `t` — any state, the
remote-queue mark set or not, every attribute present — under the current or the pre-fix key, and start a new
client on it. If the load succeeds: `t`'s identity is listed, every identity once, every loaded transfer has its
remote-queue mark cleared, is not in progress and reports to the manager, and the scheduler's choice of downloads
depends on user status, direction, state and fail reason only (the stored mark blocks nothing). -/
theorem C17_previous_release_cache {K : Type} [DecidableEq K] (H : ByteArray → K) (s : Sys K) (t : Transfer)
    (oldKey : Bool) :
    let r := step H (step H s (.prev t oldKey)).1 .restart
    r.2 = .loaded →
      ident t ∈ r.1.mgr.transfers.map ident ∧ (r.1.mgr.transfers.map ident).Nodup ∧
      (∀ x ∈ r.1.mgr.transfers,
        x.remotelyQueued = false ∧ isProcessing x.state = false ∧ x.listeners = [mgrId] ∧ x.tasks = 0) ∧
      (∀ (offline : Str → Bool), ∀ x ∈ r.1.mgr.transfers,
        (x ∈ (eligible offline r.1.mgr.transfers).1 ↔
          (offline x.user = false ∧ x.dir = .download ∧
            (x.state = .queued ∨ x.state = .incomplete ∨ (x.state = .failed ∧ x.failReason = none))))) := by
  rw [show step H (step H s (.prev t oldKey)).1 .restart = doRestart (doPrev H s t oldKey).1 from rfl]
  fun_cases doRestart (doPrev H s t oldKey).1
  next m hm => -- the cache loads
    refine fun _ => ⟨?_, ?_, fun x hx => ?_, fun offline x hx => ?_⟩
    · obtain ⟨l, hl, rfl⟩ := load_eq_some.1 hm
      have hmem : persist t ∈ (doPrev H s t oldKey).1.db.map (·.2) := by simp [doPrev, Db.put]
      obtain ⟨y, hy, hy'⟩ := restoreAll_complete hl hmem
      cases (restore_persist t).symm.trans hy'
      exact mem_ids_addAll.2 (.inr (List.mem_map.2 ⟨canon t, hy, rfl⟩))
    · obtain ⟨l, _, rfl⟩ := load_eq_some.1 hm
      exact addAll_nodup l _ List.nodup_nil
    · obtain h1 | ⟨hp, hq, _⟩ := C17_no_in_progress _ m _ hm x hx
      · cases h1
      obtain h2 | ⟨hl, htk, _⟩ := (C17_listener_attached _ m _ hm).1 x hx
      · cases h2
      exact ⟨hq, hp, hl, htk⟩
    · exact (C17_schedulable_download _ m _ hm offline x hx).resolve_left List.not_mem_nil
  next => exact nofun -- load error

/-! ### Non-vacuity: the hypotheses are met by non-trivial concrete states -/

/-- two downloads whose *unpatched* keys collide, persisted in the middle of their life -/
def exA : Transfer :=
  { user := ['a', 'b'], path := ['c'], dir := .download, state := .downloading, localPath := some ['x'],
    filesize := some 10, bytes := 4, failReason := none, abortReason := none, remotelyQueued := true,
    placeInQueue := some 2, queueAttempts := 1, lastQueueAttempt := 0, uploadRequestAttempts := 0,
    lastUploadRequestAttempt := 0, startTime := some 5, completeTime := none, hasOffset := true,
    listeners := [7], tasks := 1 }
def exB : Transfer := { exA with user := ['a'], path := ['b', 'c'], state := .initializing, bytes := 0 }

example : ([exA, exB].map ident).Nodup := by decide
example : keyOf exA ≠ keyOf exB := fun h => absurd (keyOf_inj h) (by decide)
example : (repair (canon exA)).1.state = .incomplete ∧ (repair (canon exB)).1.state = .queued ∧
    (repair (canon exA)).1.remotelyQueued = false := by decide +kernel
/-- `Function.Injective H` is satisfiable (the driver runs the model with `H = id`) -/
example : Function.Injective (id : ByteArray → ByteArray) := fun _ _ h => h
/-- a load that adds something and whose eligible lists are not empty -/
example : ∃ m', (Mgr.empty 1).load ([((0 : Nat), persist exA), (1, persist { exB with dir := .upload })]) = some m' ∧
    (eligible (fun _ => false) m'.transfers).1.length = 1 ∧ (eligible (fun _ => false) m'.transfers).2.length = 1 := by
  refine ⟨_, rfl, ?_, ?_⟩ <;> decide

/-- a history with operations suspended in listeners: `exB`'s removal is being announced (reported gone, not
listed), `exA`'s addition has been reported while its `add()` is still suspended (reported there, listed) -/
example :
    let s := run (id : ByteArray → ByteArray) Sys.init
      [.add exB, .addCall exA, .rmCall (ident exB) 1000, .rmStep (ident exB)]
    s.there = [ident exA] ∧ s.gone = [ident exB] ∧ s.pending.length = 2 ∧ (s.mgr.transfers.map ident) = [ident exA] := by
  decide +kernel
example : GhostInv (Sys.init : Sys ByteArray) := Inv.nil

/-- a history in which the read is interleaved: the cache holds `exA` (under both key formats) and `exB` (as the
previous release left it, remote-queue mark set); the loop registers `exB` and is suspended; `exA` — which the loop
has yet to reach — is added by another task; the loop resumes and ends. Each identity is listed once. -/
example :
    let s := run (id : ByteArray → ByteArray) Sys.init
      [.add exA, .store, .dupKey (ident exA), .prev exB false,
       .loadCall [ident exB, ident exA], .add { exA with state := .virgin, remotelyQueued := false }, .loadStep]
    s.loading = none ∧ s.mgr.transfers.map ident = [ident exB, ident exA] ∧ s.mgr.addedEvents = 2 ∧
      s.db.length = 3 ∧ s.mgr.transfers.all (fun t => !t.remotelyQueued) = true := by
  decide +kernel
example : Op.keeps (.add exA) = true ∧ Op.keeps .loadStep = true ∧ Op.keeps .store = true ∧
    Op.keeps (.rm (ident exA) 0) = false ∧ Op.keeps .restart = false := by decide
example : Op.quiet (.rmStep (ident exA)) = true ∧ Op.quiet (.addCall exA) = true ∧ Op.quiet .store = false := by decide

end AioslskVerif.C17
