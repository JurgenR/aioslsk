import AioslskVerif.Proofs.WireTop
import AioslskVerif.Proofs.Obfs
import AioslskVerif.Proofs.WireDomain
import AioslskVerif.Generated.Schemas
import AioslskVerif.Spec.Pinned
/-!
# C01 — every message survives encode → wire → decode, byte-compatibly

The schema table `Generated/Schemas.lean` is regenerated from the source on every run; `Spec/Pinned.lean`
is the frozen layout it is compared with.
-/
namespace AioslskVerif.C01
open AioslskVerif.Wire

/-- zlib's only law used -/
def Zlib.Lawful (z : Zlib) : Prop := ∀ x, z.inflate (z.deflate x) = some x

/-- **Round trip of the message body** (every field list, every in-domain value). -/
theorem C01_roundtrip_body (fs : List Field) (vs : List Val) (b : Bytes)
    (hd : domFrom vs [] [] fs vs = true) (he : encTop vs fs vs = some b) :
    (decTop fs [] b >>= fun p => construct fs p.1) = .ok vs := by
  have h1 := decTop_encTop vs fs vs [] [] b rfl hd he
  have h2 := construct_expParsed vs fs vs [] [] hd
  simp only [expParsed, List.nil_append] at h1
  simp [h1, h2]

/-- **Round trip through the frame** (`serialize()` then the class's `deserialize(0, ·)`), compressed or
not, for every well-formed schema and every in-domain value the encoder accepts. -/
theorem C01_roundtrip_frame (z : Zlib) (hz : Zlib.Lawful z) (s : MsgSchema) (vs : List Val) (fr : Bytes)
    (hwf : s.wf = true) (hd : inDomain s vs = true) (he : encodeFrame z s vs = some fr) :
    decodeFrame z s fr = .ok vs := by
  simp only [MsgSchema.wf, Bool.and_eq_true, beq_iff_eq] at hwf
  obtain ⟨⟨⟨hid, _⟩, hcd⟩, _⟩ := hwf
  obtain ⟨body, payload, hb, rfl, hn, rfl⟩ := encodeFrame_some z s vs fr he
  unfold decodeFrame
  rw [List.append_assoc, rd32_le32 _ hn, except_bind_ok]
  simp only [rdId_idBytes s _ hid, except_bind_ok, bne_self_eq_false, Bool.false_eq_true, if_false, ← hcd]
  -- the receiver undoes the compression exactly when the sender compressed
  cases s.compress
  · exact C01_roundtrip_body s.fields vs body hd hb
  · simp only [if_true, hz body]
    exact C01_roundtrip_body s.fields vs body hd hb

/-- **Round trip through the family dispatcher** (`ServerMessage.deserialize_response`, …): in a table
with unique ids the frame is decoded by its own class, to the original value. -/
theorem C01_roundtrip_dispatch (z : Zlib) (hz : Zlib.Lawful z) (table : List MsgSchema) (i : Nat)
    (s : MsgSchema) (vs : List Val) (fr : Bytes) (htw : tableWf table = true) (hs : table[i]? = some s)
    (hd : inDomain s vs = true) (he : encodeFrame z s vs = some fr) :
    dispatch z table s.family s.dir fr = .ok (i, vs) := by
  have hwf := wf_of_tableWf htw hs
  have hframe := C01_roundtrip_frame z hz s vs fr hwf hd he
  have hfind := uniqueKeys_findIdx table i s (Bool.and_eq_true_iff.mp htw).2 hs
  simp only [MsgSchema.wf, Bool.and_eq_true] at hwf
  obtain ⟨⟨⟨hid, hfw⟩, _⟩, _⟩ := hwf
  obtain ⟨body, payload, hb, hp, hn, hfr⟩ := encodeFrame_some z s vs fr he
  unfold dispatch
  have hdrop : fr.drop 4 = idBytes s ++ payload := by rw [hfr]; simp [le32]
  have hlen : ¬ fr.length < 4 := by rw [hfr]; simp [le32]
  obtain ⟨r', hr'⟩ := rdId_family s payload hid hfw
  rw [hdrop, hr']
  simp only [except_bind_ok, hlen, if_false, hfind, hs, hframe]
  rfl

/-- **Length prefix**: the first four bytes are the little-endian count of the bytes that follow. -/
theorem C01_length_prefix (z : Zlib) (s : MsgSchema) (vs : List Val) (fr : Bytes)
    (he : encodeFrame z s vs = some fr) : fr.take 4 = le32 (fr.length - 4) ∧ 4 ≤ fr.length := by
  obtain ⟨body, payload, _, _, _, hfr⟩ := encodeFrame_some z s vs fr he
  subst hfr
  simp [le32]

/-- **Message code**: the bytes after the prefix are the class's code in the class's width. -/
theorem C01_code (z : Zlib) (s : MsgSchema) (vs : List Val) (fr : Bytes)
    (he : encodeFrame z s vs = some fr) : (fr.drop 4).take (idBytes s).length = idBytes s := by
  obtain ⟨body, payload, _, _, _, hfr⟩ := encodeFrame_some z s vs fr he
  subst hfr
  simp [le32]

/-- The schema table regenerated from the source is well-formed (re-decided on every run). -/
theorem C01_generated_wf : tableWf Generated.Schemas.schemas = true := by decide +kernel

/-- The regenerated layout and the pinned layout compare equal field by field (`tableBeq`; re-decided on every
run). -/
theorem C01_layout_pinned_beq : tableBeq Generated.Schemas.schemas Spec.Pinned.schemas = true := by
  decide +kernel

/-- The regenerated schema table is the pinned one: the comparison of `C01_layout_pinned_beq` as an equality. -/
theorem C01_layout_pinned : Generated.Schemas.schemas = Spec.Pinned.schemas :=
  table_eq_of_beq _ _ C01_layout_pinned_beq

/-- The two tables being equal (`C01_layout_pinned`), every message is encoded to exactly the bytes the pinned
layout prescribes. -/
theorem C01_bytes_pinned (z : Zlib) (i : Nat) (vs : List Val) :
    (Generated.Schemas.schemas[i]?).bind (fun s => encodeFrame z s vs)
      = (Spec.Pinned.schemas[i]?).bind (fun s => encodeFrame z s vs) := by
  rw [C01_layout_pinned]

/-- All of the above for the real table: any in-domain message of any class of the current source
round-trips through its family dispatcher. -/
theorem C01_roundtrip_all (z : Zlib) (hz : Zlib.Lawful z) (i : Nat) (s : MsgSchema) (vs : List Val)
    (fr : Bytes) (hs : Generated.Schemas.schemas[i]? = some s) (hd : inDomain s vs = true)
    (he : encodeFrame z s vs = some fr) :
    dispatch z Generated.Schemas.schemas s.family s.dir fr = .ok (i, vs) :=
  C01_roundtrip_dispatch z hz _ i s vs fr C01_generated_wf hs hd he

/-- **Obfuscation**: for every 4-byte key and every byte string (any length: 0, < 4, not a multiple
of 4, longer than the 128-byte key table) de-obfuscating the obfuscated data gives the data back. -/
theorem C01_obfuscation (key data : Obfs.Bytes) (hk : key.length = 4) :
    Obfs.decode (Obfs.encode key data) = data :=
  Obfs.decode_encode key data hk

/-- the obfuscated form starts with the key and has the same length as key + data (the frame length
read from the first 4 de-obfuscated bytes therefore still delimits the frame) -/
theorem C01_obfuscation_shape (key data : Obfs.Bytes) :
    (Obfs.encode key data).length = key.length + data.length ∧ (Obfs.encode key data).take key.length = key := by
  rw [Obfs.encode_eq, List.length_append, Obfs.encSpec_length, List.take_left]
  exact ⟨rfl, rfl⟩

/-- **The domain in plain words.** For a well-formed schema the technical hypothesis `inDomain` of the
round-trip theorems follows from the plain domain: one value per field, `None` exactly where a guard
does not hold, a value where it holds, except for trailing `optional` fields with default `None`
when nothing after them is written. (Ranges and lengths are "the encoder accepts the value".) -/
theorem C01_domain_plain (s : MsgSchema) (vs : List Val) (hwf : s.wf = true)
    (hd : plainDom vs s.fields vs = true) : inDomain s vs = true := by
  simp only [MsgSchema.wf, Bool.and_eq_true] at hwf
  exact plainDom_domFrom vs s.fields vs [] [] (by simp) rfl .nil (by simpa using hwf.2) hd

/-- hence: every plain-domain message of every class of the current source that the encoder accepts
round-trips through its family dispatcher -/
theorem C01_roundtrip_plain (z : Zlib) (hz : Zlib.Lawful z) (i : Nat) (s : MsgSchema) (vs : List Val)
    (fr : Bytes) (hs : Generated.Schemas.schemas[i]? = some s) (hd : plainDom vs s.fields vs = true)
    (he : encodeFrame z s vs = some fr) :
    dispatch z Generated.Schemas.schemas s.family s.dir fr = .ok (i, vs) :=
  C01_roundtrip_all z hz i s vs fr hs (C01_domain_plain s vs (wf_of_tableWf C01_generated_wf hs) hd) he

/-- **Connection level** (`encode_message_data` then `decode_message_data` in `network/connection.py`):
on an obfuscated connection the frame is obfuscated with any 4-byte key, de-obfuscated by the
receiver and dispatched — the original message comes back; on a plain connection the frame is
dispatched as is. -/
theorem C01_roundtrip_connection (z : Zlib) (hz : Zlib.Lawful z) (i : Nat) (s : MsgSchema) (vs : List Val)
    (fr : Bytes) (obf : Bool) (key : Obfs.Bytes) (hk : key.length = 4)
    (hs : Generated.Schemas.schemas[i]? = some s) (hd : inDomain s vs = true)
    (he : encodeFrame z s vs = some fr) :
    dispatch z Generated.Schemas.schemas s.family s.dir
      (if obf then Obfs.decode (Obfs.encode key fr) else fr) = .ok (i, vs) := by
  cases obf with
  | false => exact C01_roundtrip_all z hz i s vs fr hs hd he
  | true =>
    simp only [if_true]
    rw [C01_obfuscation key fr hk]
    exact C01_roundtrip_all z hz i s vs fr hs hd he

/-! ## Non-vacuity: concrete in-domain values of the tricky classes -/
section examples
def idZ : Zlib := { deflate := id, inflate := some }
/-- Login.Response, success: guarded fields present -/
example : (Generated.Schemas.schemas[1]?).map (fun s => inDomain s
    [.bool true, .str ['h', 'i'], .ip 1 2 3 4, .str [], .bool false, .absent]) = some true := by decide +kernel
/-- Login.Response, failure: the other guard -/
example : (Generated.Schemas.schemas[1]?).map (fun s => inDomain s
    [.bool false, .absent, .absent, .absent, .absent, .str ['n', 'o']]) = some true := by decide +kernel
/-- SetListenPort.Request with the optional pair absent / present -/
example : (Generated.Schemas.schemas[2]?).map (fun s => inDomain s [.nat 2234, .absent, .absent]) = some true := by
  decide +kernel
example : (Generated.Schemas.schemas[2]?).map (fun s => inDomain s [.nat 2234, .nat 1, .nat 2235]) = some true := by
  decide +kernel
/-- … and a value OUTSIDE the domain (hole in the optional prefix) is recognised as such -/
example : (Generated.Schemas.schemas[2]?).map (fun s => inDomain s [.nat 2234, .absent, .nat 2235]) = some false := by
  decide +kernel
/-- PeerTransferReply (guard + optional under guard) in the plain domain, both branches -/
example : (Generated.Schemas.schemas.find? (fun s => s.family == .peer && s.id == 41)).map (fun s =>
    plainDom [.nat 5, .bool true, .nat 1000, .absent] s.fields [.nat 5, .bool true, .nat 1000, .absent]
    && plainDom [.nat 5, .bool false, .absent, .str ['n']] s.fields [.nat 5, .bool false, .absent, .str ['n']]
    && !plainDom [.nat 5, .bool false, .nat 1, .absent] s.fields [.nat 5, .bool false, .nat 1, .absent]) = some true := by
  decide +kernel
example : Obfs.decode (Obfs.encode [1, 2, 3, 4] [10, 20, 30, 40, 50]) = [10, 20, 30, 40, 50] := by decide
end examples

end AioslskVerif.C01
