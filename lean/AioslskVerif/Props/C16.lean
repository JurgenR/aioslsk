import AioslskVerif.Proofs.Session
/-!
# C16 — session life cycle: login advertises settings, loss resets, stop is final

Over `Model/Session.lean` (the FIXED code: fixes/C16-*.patch), for every configuration (unbounded sets of friends /
interests / favourites) and, where a history is quantified, every operation history — since round 5 histories in
which the client has adopted a distributed parent and children, which survive a loss of the server connection.
-/
namespace AioslskVerif.Session
open AioslskVerif.Generated

/-- Every spawn site found in the source is an inventory entry and every inventory entry is a spawn site of the
    source (regenerated on every run: a new `create_task(` / `BackgroundTask(` / `Timer(` breaks this). -/
theorem C16_inventory_complete :
    (∀ k ∈ TaskSites.sites, k ∈ Site.all.map Site.key) ∧ (∀ s ∈ Site.all, s.key ∈ TaskSites.sites) ∧
    (∀ s : Site, s ∈ Site.all) :=
  ⟨sites_same.1, sites_same.2, Site.mem_all⟩

/-- Every inventory entry has a cancelling path that exists in the scanned source (services list, cancel calls on
    the shutdown paths, and — for the two children of `_create_peer_connection_race`, which hold no handle — the
    `except asyncio.CancelledError` handler of their creator that cancels the pending children, waits for them and
    re-raises, together with a covered path for every library task the creator runs in). -/
theorem C16_inventory_covered (k : Site) : covered k = true := covered_all k

/-- After a successful login the server has been told exactly what the settings say: for EVERY frame value the
    number of times the login burst contains it equals the table `mustTell`. -/
theorem C16_burst_exact (c : Config) (e : Env) (h : c.WF) (f : Frame) :
    (burst c e).count f = mustTell c e f := burst_count c e h f

/-- favourites are joined iff automatic rejoin is enabled (reading of SETTINGS.rst `rooms.auto_join`) -/
theorem C16_burst_favourites (c : Config) (e : Env) (h : c.WF) (r : String) :
    (Frame.joinRoom r ∈ burst c e) ↔ (c.autoJoin = true ∧ r ∈ c.favorites) := by
  rw [← List.count_pos_iff, burst_count c e h]
  simp only [mustTell]
  split <;> simp_all

/-- a successful login emits exactly the burst -/
theorem C16_login_emits_burst (c : Config) (st : State) (hc : st.conn = .connected) (hs : st.session = false)
    (hr : st.reader = false) (hp : st.stopped = false) (ha : st.srvReply = .accepted) :
    (step c st .login).2 = [.loginSent, .sessionInit, .frames (burst c (envOf c st)), .loginResult .ok] ∧
    (step c st .login).1.session = true := by
  simp [step, doLogin, hc, hs, hr, hp, ha]

/-- The three distributed frames of a burst are exactly the client's branch position: for EVERY value, the burst
    contains BranchLevel / BranchRoot / ToggleParentSearch with that value once if it is the position's, never
    otherwise — whatever the parent in `e` is (none at a first login, the surviving one at a re-login). -/
theorem C16_burst_position (c : Config) (e : Env) (h : c.WF) (n : Nat) (u : String) (b : Bool) :
    (burst c e).count (.branchLevel n) = (if (positionOf c e).1 = n then 1 else 0) ∧
    (burst c e).count (.branchRoot u) = (if (positionOf c e).2.1 = u then 1 else 0) ∧
    (burst c e).count (.toggleParentSearch b) = (if (positionOf c e).2.2 = b then 1 else 0) := by
  refine ⟨?_, ?_, ?_⟩ <;> rw [burst_count c e h] <;> rfl

/-- what the position is (reading of distributed.py `_get_advertised_branch_values`): without a parent, or when the
    parent's branch root is the client itself, level 0 of the client's own branch; else one level below the parent
    in the parent's branch; a parent is searched for iff there is none and `debug.search_for_parent` -/
theorem C16_position_values (c : Config) (st : State) :
    position c st = (match st.parent with
      | none => (0, c.username, c.searchForParent)
      | some p => if p.root = c.username then (0, c.username, false) else (p.level + 1, p.root, false)) := by
  cases hp : st.parent with
  | none => simp [position, positionOf, envOf, branchValues, hp]
  | some p =>
    by_cases hr : p.root = c.username <;> simp [position, positionOf, envOf, branchValues, hp, hr]

/-- A login in ANY reachable state — after any history of parents adopted, moved and lost, children, losses of the
    server connection, reconnects — sends the burst computed from the parent the client has in that state, and the
    new connection has been told the client's position. -/
theorem C16_login_tells_position (c : Config) (ops : List Op) :
    let st := (run c init ops).1
    st.conn = .connected → st.session = false → st.reader = false → st.stopped = false → st.srvReply = .accepted →
    (step c st .login).2 = [.loginSent, .sessionInit, .frames (burst c (envOf c st)), .loginResult .ok] ∧
    (envOf c st).parent = st.parent.map (fun p => (p.root, p.level)) ∧
    (step c st .login).1.told = some (position c st) ∧ (step c st .login).1.parent = st.parent := by
  intro st hc hs hr hp ha
  simp [step, doLogin, hc, hs, hr, hp, ha, envOf]

/-- INVARIANT over all histories: whenever a session exists, the last BranchLevel / BranchRoot /
    ToggleParentSearch the CURRENT server connection received describe the position the client has now.  (A
    connection that is gone took what it was told with it: `closeServer` forgets `told`.) -/
theorem C16_server_knows_position (c : Config) (ops : List Op) :
    (run c init ops).1.session = true → (run c init ops).1.told = some (position c (run c init ops).1) :=
  (reach_run c ops).pos

/-- the share counts of a login's burst are those of the index AT THAT LOGIN: the counts of the last scan the
    application has made since `start()` (`Op.rescan`), else those at `start()` — in any state -/
theorem C16_burst_index (c : Config) (st : State) (h : c.WF) (d f : Nat) :
    (burst c (envOf c st)).count (.sharedFoldersFiles d f) =
      (if st.stats.getD (c.dirs, c.files) = (d, f) then 1 else 0) := by
  rw [burst_count c _ h]
  simp [mustTell, envOf, Prod.ext_iff]

/-- a loss of the server connection — any reason — leaves the distributed parent and the children alone -/
theorem C16_loss_keeps_peers (c : Config) (st : State) (r : Reason) :
    (step c st (.loss r)).1.parent = st.parent ∧ (step c st (.loss r)).1.children = st.children := by
  simp only [step]
  split
  · exact ⟨(closeServer_keeps_peers r st).1, (closeServer_keeps_peers r st).2.1⟩
  · exact ⟨rfl, rfl⟩

/-- THE re-login law for the position, over every history: from any reachable state with a connected server
    connection — whatever parent the client has adopted — an unrequested loss with `reconnect.auto`, followed by the
    reconnect delay (+ one poll) with the server accepting, ends in a session whose burst was computed with the
    parent the client had BEFORE the loss; the parent is still there and the new connection knows the position. -/
theorem C16_relogin_tells_surviving_position (c : Config) (ops : List Op) (r : Reason) :
    let st := (run c init ops).1
    st.conn = .connected → r ≠ .connectFailed → ((r = .eof ∨ r = .readError) → st.reader = true) →
    c.reconnectAuto = true → r ≠ .requested → r ≠ .eof → c.credsOk = true →
    st.srvUp = true → st.srvReply = .accepted →
    let res := run c st (.loss r :: List.replicate (reconnectTicks + 1) .tick)
    Obs.frames (burst c (envOf c st)) ∈ res.2 ∧ res.1.session = true ∧ res.1.parent = st.parent ∧
    res.1.told = some (position c st) := by
  intro st hc hv hr ha hq he hk hup hrep res
  have hw : st.wd = .idle := (reach_run c ops).wd.2 hc ha
  obtain ⟨s2, hrun, h3, h4, h5, h6⟩ := idle_reconnect_run c (closeServer r st).1
    (by simp [closeServer, hc, hq, he, hw]) (by simp [closeServer, hc]) hk
  obtain ⟨hpar, _, hstats⟩ := closeServer_keeps_peers r st
  -- the state that reconnects has the server's behaviour, the parent and the share index of `st`
  have hrr := reconnect_relogin c s2 (by simpa [h3, closeServer, hc] using hup) ha
    (by simpa [h4, closeServer, hc] using hrep)
  rw [envOf_congr c s2 st (h5.trans hpar) (h6.trans hstats), position_congr c s2 st (h5.trans hpar),
    h5.trans hpar] at hrr
  have hres : res = (_, (closeServer r st).2 ++ _) :=
    (run_cons c st _ _).trans (by rw [step_loss c st r hc hv hr, hrun])
  rw [hres]
  exact ⟨List.mem_append_right _ hrr.1, hrr.2.1, hrr.2.2.1, hrr.2.2.2⟩

theorem C16_refuse_without_session (c : Config) (st : State) (h : st.session = false) :
    step c st .exec = (st, [.refused]) := by
  simp [step, h]

/-- in every reachable state a command is sent only over a connected server connection -/
theorem C16_exec_sent_only_connected (c : Config) (ops : List Op) :
    let st := (run c init ops).1
    (step c st .exec).2 = [.sent] → st.conn = .connected ∧ st.session = true := by
  intro st h
  cases hs : st.session with
  | false => simp [step, hs] at h
  | true => exact ⟨(reach_run c ops).inv.session_connected hs, rfl⟩

/-- For every history: #SessionDestroyed + (1 if a session is present) = #SessionInitialized. -/
theorem C16_destroy_once (c : Config) (ops : List Op) :
    nDestr (run c init ops).2 + b2n (run c init ops).1.session = nInit (run c init ops).2 := by
  simpa [Bal, init, b2n] using bal_run c ops init inv_init

/-- a session exists only on a connected server connection: a lost connection never keeps its session -/
theorem C16_session_needs_connection (c : Config) (ops : List Op) :
    (run c init ops).1.session = true → (run c init ops).1.conn = .connected :=
  (reach_run c ops).inv.session_connected

/-- FULL STRENGTH (the known finding `C16-residual-tracking-after-write-failure-in-burst` is repaired by
    fixes/C16-session-destroyed-during-login and fixes/C16-tracking-cancel-lost-in-failed-write): for every state
    and EVERY operation of the alphabet — including a login interrupted before the reply or at any write of the
    burst by a write failure, a close by another task, `stop()` or a server-side EOF, a loss during which a listener
    of the application is suspended, and a failed reconnect of the application — if the operation reports the
    server connection CLOSED then afterwards no tracked user, user, room, distributed parameter or session is
    stored. -/
theorem C16_reset (c : Config) (st : State) (op : Op)
    (h : obsClosed (step c st op).2 = true) : cleared (step c st op).1 :=
  reset_step c st op h

/-- the witness of that known finding: the burst write #2 fails; nothing is tracked afterwards, `login()`
    returns normally, the session was initialised and destroyed (replayed on the real code on every run as a
    directed case) -/
example :
    let c : Config := { friends := ["f1", "f2"], clearPort := 60000 }
    let st : State := { conn := .connected, started := true, ping := true }
    let r := step c st (.loginBreak (some 1) 1 .writeFail)
    obsClosed r.2 = true ∧ r.1.tracked = [] ∧ cleared r.1 ∧ nInit r.2 = 1 ∧ nDestr r.2 = 1 ∧
    Obs.loginResult .ok ∈ r.2 := by
  decide

/-- A login interrupted inside its burst — at ANY awaited write, by a write failure, a close from another task or
    `stop()` — initialises one session and destroys it again inside `login()`; afterwards there is no session, no
    tracked user, no reader and no connected server connection (the listeners that had not run yet do nothing on
    the closed connection). -/
theorem C16_login_break_clean (c : Config) (ops : List Op) (j d : Nat) (b : Break) :
    let st := (run c init ops).1
    st.conn = .connected → st.session = false → st.reader = false → st.stopped = false →
    j < (burst c (envOf c st)).length → b ≠ .srvEof →
    let r := step c st (.loginBreak (some j) d b)
    r.1.session = false ∧ r.1.tracked = [] ∧ r.1.reader = false ∧ r.1.conn ≠ .connected ∧
    nInit r.2 = 1 ∧ nDestr r.2 = 1 := by
  intro st hc hs hr hp hj hb r
  obtain ⟨h1, h2, h3, h4, h5, h6⟩ := closes_applyBreak c b (inBurst st) hc
  have h6 : nDestr (applyBreak c b (inBurst st)).2 = 1 := h6
  have hr : r = _ := step_loginBreak_within c st j d b ⟨hc, hs, hr, hp⟩ hj hb
  rw [hr]
  simp only [nInit_append, nDestr_append, h5, h6]
  exact ⟨h1, h2, h3, by simp [h4], rfl, rfl⟩

/-- the decision is taken when the connection closes: a requested disconnect or a server-side EOF stops the
    watchdog, every other reason leaves it as it was -/
theorem C16_reconnect_decision (c : Config) (st : State) (r : Reason) (hc : st.conn = .connected)
    (hv : r ≠ .connectFailed) (hr : (r = .eof ∨ r = .readError) → st.reader = true) :
    (step c st (.loss r)).1.wd = (if r = .requested ∨ r = .eof then .off else st.wd) ∧
    (step c st (.loss r)).1.conn = .closed := by
  rw [step_loss c st r hc hv hr]
  simp [closeServer, hc]

/-- the watchdog runs on a connected, not stopped client iff `reconnect.auto` (it is started at CONNECTED) -/
theorem C16_watchdog_started_iff_auto (c : Config) (st : State) (hu : st.conn = .uninit) (hs : st.started = false)
    (hup : st.srvUp = true) (n : Nat) (hl : listenResult c = some n) :
    (step c st .start).1.conn = .connected ∧
    ((step c st .start).1.wd = .idle ↔ c.reconnectAuto = true) ∧
    ((step c st .start).1.wd = .off ↔ c.reconnectAuto = false) := by
  cases ha : c.reconnectAuto <;> simp [step, doStart, hu, hs, hup, hl, ha]

/-- with the watchdog stopped (requested disconnect, EOF, stop(), or reconnect.auto off) NOTHING happens any more,
    whatever time passes and whatever the server does -/
theorem C16_no_reconnect (c : Config) (st : State) (post : List Op) (he : ∀ op ∈ post, op.isEnv = true)
    (h : st.wd = .off) : (run c st post).2 = [] := off_run c post st he h

/-- without configured credentials the watchdog never reconnects -/
theorem C16_no_reconnect_without_credentials (c : Config) (st : State) (hc : c.credsOk = false)
    (h : st.wd = .idle) : (step c st .tick).2 = [] ∧ (step c st .tick).1.wd = .idle :=
  ⟨(nocreds_step c st hc h).2, (nocreds_step c st hc h).1⟩

/-- with the watchdog alive, a closed connection and credentials, a connect attempt is made once the reconnect
    delay has elapsed … -/
theorem C16_reconnect_after_delay (c : Config) (st : State) (hw : st.wd = .idle) (hc : st.conn = .closed)
    (hk : c.credsOk = true) :
    Obs.attempt ∈ (run c st (List.replicate (reconnectTicks + 1) .tick)).2 := by
  obtain ⟨_, h, _⟩ := idle_reconnect_run c st hw hc hk
  rw [h]; exact reconnect_attempt c _

/-- … and a successful reconnect logs in again and sends the whole burst again -/
theorem C16_reconnect_logs_in (c : Config) (st : State) (hup : st.srvUp = true) (ha : c.reconnectAuto = true)
    (hr : st.srvReply = .accepted) :
    (reconnect c st).2 = [.attempt, .connected, .loginSent, .sessionInit,
      .frames (burst c (envOf c st)), .loginResult .ok] ∧ (reconnect c st).1.session = true := by
  simp [reconnect, doLogin, hup, ha, hr, envOf]

/-- THE reconnect law, over every history: from any reachable state with a connected server connection, when
    the connection is lost with reason `r` and the reconnect delay (+ one poll) passes, a new connection is
    attempted iff `reconnect.auto` ∧ `r ∉ {REQUESTED, EOF}` ∧ credentials are configured, and a new Login is sent
    iff moreover the server accepts the connection.  (`stop()` closes with REQUESTED and is covered in full
    strength by `C16_stop_final`; a connected state is never a stopped one.) -/
theorem C16_reconnect_iff (c : Config) (ops : List Op) (r : Reason) :
    let st := (run c init ops).1
    st.conn = .connected → r ≠ .connectFailed → ((r = .eof ∨ r = .readError) → st.reader = true) →
    let obs := (run c st (.loss r :: List.replicate (reconnectTicks + 1) .tick)).2
    (Obs.attempt ∈ obs ↔ (c.reconnectAuto = true ∧ r ≠ .requested ∧ r ≠ .eof ∧ c.credsOk = true)) ∧
    (Obs.loginSent ∈ obs ↔
      (c.reconnectAuto = true ∧ r ≠ .requested ∧ r ≠ .eof ∧ c.credsOk = true ∧ st.srvUp = true)) := by
  intro st hc hv hr obs
  have : obs = _ := congrArg Prod.snd ((run_cons c st _ _).trans (by rw [step_loss c st r hc hv hr]))
  rw [this]
  exact reconnect_law c st _ r (reach_run c ops).wd hc rfl rfl rfl

/-- The same law when a listener of the application (CLOSED / SessionDestroyed event) stays SUSPENDED for the whole
    reconnect delay: the watchdog reconnects and logs in while `DataConnection.disconnect` has not returned. -/
theorem C16_reconnect_iff_held (c : Config) (ops : List Op) (r : Reason) :
    let st := (run c init ops).1
    st.conn = .connected → r ≠ .connectFailed → ((r = .eof ∨ r = .readError) → st.reader = true) →
    let obs := (run c st (.lossHeld r :: List.replicate (reconnectTicks + 1) .tick)).2
    (Obs.attempt ∈ obs ↔ (c.reconnectAuto = true ∧ r ≠ .requested ∧ r ≠ .eof ∧ c.credsOk = true)) ∧
    (Obs.loginSent ∈ obs ↔
      (c.reconnectAuto = true ∧ r ≠ .requested ∧ r ≠ .eof ∧ c.credsOk = true ∧ st.srvUp = true)) := by
  intro st hc hv hr obs
  have : obs = _ := congrArg Prod.snd ((run_cons c st _ _).trans (by rw [step_lossHeld c st r hc hv hr]))
  rw [this]
  exact reconnect_law c st _ r (reach_run c ops).wd hc rfl rfl rfl

/-- When the suspended listeners return nothing else changes: the connection and the session the watchdog (or the
    application) has established meanwhile stay as they are, no event is produced, and no reader of the old
    stream is left (fix C16-disconnect-releases-stream-first). -/
theorem C16_release_harmless (c : Config) (st : State) (h : st.held ≠ []) :
    (step c st .release).2 = [] ∧ (step c st .release).1 = { st with held := [] } ∧
    (step c st .release).1.heldReaders = 0 := by
  simp [step, h, State.heldReaders]

/-- After `stop()` has returned — wherever it was called: in ANY reachable state, also from another task while a
    `login()` is waiting for the reply or is suspended in any write of its post-login burst (`pre` may end with
    `.loginBreak pos d .stop`) — no library task is pending except reader loops that are suspended inside a
    listener of the APPLICATION (they end when the listener returns: last conjunct), no socket is open, and for
    EVERY later sequence of operations (time passing, server coming back, even user calls) no connection is
    attempted or opened, nothing is sent, no session appears, and it stays that way.
    (Calling `start()` again after `stop()` is outside the model: it is reported as not applicable.) -/
theorem C16_stop_final (c : Config) (pre post : List Op) :
    let st1 := (run c init pre).1
    st1.stopped = true →
    alive c st1 = List.replicate st1.heldReaders .reader ∧ openSockets st1 = 0 ∧
    (∀ o ∈ (run c st1 post).2, o = .invalid ∨ o = .refused) ∧
    alive c (run c st1 post).1 = List.replicate (run c st1 post).1.heldReaders .reader ∧
    (run c st1 post).1.heldReaders ≤ st1.heldReaders ∧
    openSockets (run c st1 post).1 = 0 ∧
    alive c (step c (run c st1 post).1 .release).1 = [] := by
  intro st1 hp
  have hq : Quiet st1 := (reach_run c pre).stop hp
  have hr := quiet_run c post st1 hq
  have hrel := quiet_step c (run c st1 post).1 .release hr.1
  refine ⟨(quiet_alive c st1 hq).1, (quiet_alive c st1 hq).2, hr.2.1, (quiet_alive c _ hr.1).1, hr.2.2,
    (quiet_alive c _ hr.1).2, ?_⟩
  rw [(quiet_alive c _ hrel.1).1]
  by_cases hh : (run c st1 post).1.held = [] <;> simp [step, hh, State.heldReaders]

/-- `stop()` is applicable in every reachable state of a started, not yet stopped client and sets `stopped` … -/
theorem C16_stop_applicable (c : Config) (pre : List Op) :
    let st0 := (run c init pre).1
    st0.started = true → st0.stopped = false → (step c st0 .stop).1.stopped = true := by
  intro st0 hs hp
  simp [step, hs, hp, doStop]

/-- … also when it is called while a `login()` is in progress, at any of its suspension points -/
theorem C16_stop_applicable_in_login (c : Config) (pre : List Op) (pos : Option Nat) (d : Nat) :
    let st0 := (run c init pre).1
    st0.conn = .connected → st0.session = false → st0.reader = false → st0.stopped = false →
    (step c st0 (.loginBreak pos d .stop)).1.stopped = true ∧
    Obs.invalid ∉ (step c st0 (.loginBreak pos d .stop)).2 := by
  intro st0 hc hs hr hp
  have hstop : ∀ s : State, (doStop c s).1.stopped = true ∧ Obs.invalid ∉ (doStop c s).2 := by
    intro s; rw [doStop_eq]; refine ⟨rfl, ?_⟩
    unfold closeServer; split
    · simp
    · split <;> simp
  simp only [step, hc, hs, hr, hp, and_self, if_true]
  exact doLoginBreak_cases c pos d .stop st0 (P := fun r => r.1.stopped = true ∧ Obs.invalid ∉ r.2)
    ⟨(hstop _).1, by simp [applyBreak, hstop]⟩ (fun _ => ⟨(hstop _).1, by simp [applyBreak, hstop]⟩)
    ⟨(hstop _).1, by simp [applyBreak, hstop, loginObs]⟩ (fun h => nomatch h)

private def exCfg : Config :=
  { friends := ["f1", "f2"], liked := ["rock"], hated := ["pop"], favorites := ["room1"], reconnectAuto := true,
    requestTimeout := true, wishlist := 1, clearPort := 60000, obfPort := 60001, race := true, files := 2 }

/-- a session with pending work (search timer, wishlist, potential parent in race mode), lost by a read error, reconnected after
    21 ticks and logged in again: two sessions initialised, one destroyed, one present -/
example :
    let r := run exCfg init ([.start, .login, .populate, .search, .wishlistInterval, .potentialParents,
      .loss .readError] ++ List.replicate 21 .tick)
    r.1.session = true ∧ nInit r.2 = 2 ∧ nDestr r.2 = 1 ∧ r.1.conn = .connected := by decide

/-- stop() in the middle of the reconnect delay: the premises of `C16_stop_final` hold and work was pending -/
example :
    let st0 := (run exCfg init [.start, .login, .search, .potentialParents, .searchRequest, .loss .writeError,
      .tick, .tick]).1
    -- watchdog, 3 managers' tasks, search timer, potential parent + search reply, each with 2 race children
    st0.started = true ∧ st0.stopped = false ∧ st0.wd = .sleeping 19 ∧ (alive exCfg st0).length = 11 := by decide

/-- `stop()` from another task while the login after a reconnect is suspended in the 4th write of its burst: the
    premise of `C16_stop_final` holds for this history, a session was initialised twice and destroyed twice -/
example :
    let r := run exCfg init [.start, .login, .search, .loss .readError, .connect, .loginBreak (some 3) 4 .stop]
    r.1.stopped = true ∧ nInit r.2 = 2 ∧ nDestr r.2 = 2 ∧ alive exCfg r.1 = [] := by
  -- evaluating `covered` is dear: unfold down to it and rewrite it away first
  simp only [run, step, doLoginBreak, applyBreak, doStop_eq]
  decide

/-- a read error whose SessionDestroyed listener stays suspended while the watchdog reconnects and logs in; when
    the listener returns the new session is untouched and the stale reader is gone -/
example :
    let r := run exCfg init ([.start, .login, .lossHeld .readError] ++ List.replicate 21 .tick)
    let r' := step exCfg r.1 .release
    r.1.session = true ∧ r.1.heldReaders = 1 ∧ (alive exCfg r.1).count .reader = 2 ∧
    r'.1.session = true ∧ r'.1.conn = .connected ∧ (alive exCfg r'.1).count .reader = 1 ∧ r'.2 = [] := by decide

/-- the parent named by the server announces level 3 in the branch of "rootuser", a child joins; the server
    connection is lost by a read error, the watchdog reconnects and logs in: parent and child are still there, the
    burst of the SECOND login carries level 4 / "rootuser" / not searching, and that is what the new connection
    knows (the hypotheses of `C16_relogin_tells_surviving_position` hold in a reachable state with a parent) -/
example :
    let pre : List Op := [.start, .login, .potentialParents, .parentAdopt "par0" "rootuser" 3, .childJoin]
    let st := (run exCfg init pre).1
    let r := run exCfg st (.loss .readError :: List.replicate 21 .tick)
    st.conn = .connected ∧ st.srvUp = true ∧ st.srvReply = .accepted ∧ st.pp = [] ∧
    st.parent = some ⟨"par0", "rootuser", 3⟩ ∧ st.told = some (4, "rootuser", false) ∧
    r.1.session = true ∧ r.1.parent = st.parent ∧ r.1.children = 1 ∧ r.1.told = some (4, "rootuser", false) ∧
    Frame.branchLevel 4 ∈ burst exCfg (envOf exCfg r.1) ∧ Frame.branchRoot "rootuser" ∈ burst exCfg (envOf exCfg r.1) ∧
    Frame.toggleParentSearch false ∈ burst exCfg (envOf exCfg r.1) ∧
    Obs.frames (burst exCfg (envOf exCfg st)) ∈ r.2 ∧ nInit r.2 = 1 := by decide

/-- the parent moves and goes away while there is no session (requested disconnect): nothing can be sent; the manual
    login that follows announces level 0 / own name / searching again; `stop()` closes the children -/
example :
    let r := run exCfg init [.start, .login, .parentAdopt "par0" "x" 0, .childJoin, .loss .requested, .parentLevel 2,
      .parentLoss, .connect, .login]
    r.1.session = true ∧ r.1.parent = none ∧ r.1.children = 1 ∧ r.1.told = some (0, "me", true) ∧
    (alive exCfg r.1).count .reader = 2 ∧ alive exCfg (step exCfg r.1 .stop).1 = [] ∧
    openSockets (step exCfg r.1 .stop).1 = 0 := by
  simp only [run, step, doStop_eq, covered_all]
  decide

/-- the application scans again without a session (nothing can be reported): the re-login reports the new counts -/
example :
    let c : Config := { exCfg with shareDirs := 1, dirs := 1 }
    let r := run c init ([.start, .login, .loss .readError, .rescan 1 5] ++ List.replicate 21 .tick)
    r.1.session = true ∧ Frame.sharedFoldersFiles 1 5 ∈ burst c (envOf c r.1) ∧
    Frame.sharedFoldersFiles 1 2 ∉ burst c (envOf c r.1) ∧ Obs.frames (burst c (envOf c r.1)) ∈ r.2 := by decide

example : exCfg.WF := by decide

example : (burst exCfg (envOf exCfg init)).length = 14 := by decide

end AioslskVerif.Session
