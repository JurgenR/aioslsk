import AioslskVerif.Proofs.Rooms
/-!
# C19 — room and user views equal the fold of what the server announced

The model (`Model/Rooms.lean`) is of the code **with** fixes/C19-own-operator-grant.patch and
fixes/C19-join-room-replaces-users.patch.  The specification (`Spec/Rooms.lean`) is the extensional fold `Spec.apply`:
join adds, leave removes, grant adds, revoke removes, lists replace; `view` is the abstraction function.

`Msg.WF` only says that enum-typed fields carry enum values (user status 0..2, upload permissions
0..3, an `AddUser` reply for an existing user has a status): on anything else a handler dies with
`ValueError` half-way (modelled, and compared with the real code by the correspondence, but no
specification says what a half-applied notification "implies").
-/
namespace AioslskVerif.C19
open AioslskVerif.Rooms
open AioslskVerif.Rooms.Spec (announces blocked tagOf)

/-- **Replica.** After any sequence of well-formed (`Msg.WF`) notifications — all 32 message classes the two managers
listen to, any rooms, any users, any length — what an observer sees of the managers (each room's
joined flag, users, owner, members, operators, tickers, privacy flag; which rooms are known; each
user's status, stats, privileges, country, slots; the own privilege time) is exactly the fold of
`Spec.apply` over the sequence. -/
theorem C19_replica (env : Env) (msgs : List Msg) (hwf : ∀ m ∈ msgs, m.WF = true) :
    view (run env msgs) = Spec.replay env msgs :=
  view_foldl env msgs hwf inv_init

/-- **One step**, from any reachable state: handling a notification changes the view by exactly what
the notification implies (the commutation square the replica theorem is folded from). -/
theorem C19_step (env : Env) (msgs : List Msg) (m : Msg) (hm : m.WF = true) :
    view (handle env (run env msgs) m).st = Spec.apply env (view (run env msgs)) m := by
  exact handle_view env _ (inv_run env msgs) m hm

/-- The user *list* of a room never names a user twice, whatever was received (malformed
notifications included) — so the list is a faithful representation of the set the replica theorem
speaks about. -/
theorem C19_users_nodup (env : Env) (msgs : List Msg) (r : Nat) (x : Rooms.Room)
    (h : AL.find r (run env msgs).rooms = some x) : x.users.Nodup := by
  exact inv_run env msgs _ (AL.mem_of_find h)

/-- the acknowledgement of a private message is an outgoing server message, not a report -/
def isAck : Ev → Bool
  | .ack _ => true
  | _ => false

/-- **Events.** Whatever the state, every event a notification produces carries the kind, the room
and the user the notification was announced for (chat, ticker, membership, operator, join/leave,
status/stats/privilege events alike). -/
theorem C19_events (env : Env) (s : Rooms.State) (m : Msg) (e : Ev) (he : e ∈ (handle env s m).evs) (hna : isAck e = false) :
    announces m = some (tagOf e) := by
  have h : tagOf e ∈ ((handle env s m).evs.filter (fun e => (tagOf e).kind != .ack)).map tagOf :=
    List.mem_map_of_mem (List.mem_filter.2 ⟨he, by cases e with | ack _ => cases hna | _ => rfl⟩)
  rw [tags_handle] at h
  cases hc : blocked env m || !m.WF <;> rw [hc] at h
  · exact Option.mem_toList.1 h
  · cases h

/-- **Block filter.** A chat message from a user blocked for its kind (room / public chat:
`ROOM_MESSAGES`; private chat: `PRIVATE_MESSAGES`) is not reported and leaves the views untouched;
a private message is acknowledged to the server all the same. -/
theorem C19_block_filter (env : Env) (s : Rooms.State) (m : Msg) (hb : blocked env m = true) :
    (handle env s m).evs.filter (fun e => !isAck e) = [] ∧ view (handle env s m).st = view s := by
  cases m with dsimp only [blocked] at hb
  | roomChat r u t | publicChat r u t | privateChat i ts u t d =>
    dsimp only [handle]
    rw [if_pos hb]
    exact ⟨rfl, rfl⟩
  | _ => cases hb

/-- … and every other well-formed notification is reported exactly once, as what it announces
(`AddUser`, `PeerSearchReply` and the invites toggle announce nothing). -/
theorem C19_reported_once (env : Env) (s : Rooms.State) (m : Msg) (hb : blocked env m = false) (hm : m.WF = true) :
    ((handle env s m).evs.filter (fun e => !isAck e)).map tagOf = (announces m).toList := by
  have hack : isAck = fun e => (tagOf e).kind == .ack := funext fun e => by cases e <;> rfl
  have h := tags_handle env s m
  rw [hb, hm] at h
  rw [hack]
  exact h

/-- A private message is acknowledged first, whoever sent it. -/
theorem C19_private_acked (env : Env) (s : Rooms.State) (id ts u t : Nat) (d : Bool) :
    (handle env s (.privateChat id ts u t d)).evs.head? = some (.ack id) := by
  dsimp only [handle]
  split <;> rfl

/-! ## Non-vacuity: the hypotheses are met by non-trivial histories, and the fixed handlers do what the
specification says on the inputs that exposed the two defects. -/

/-- the logged-in user is 0; user 2 is blocked for room chat, user 1 for private chat -/
def env0 : Env := { me := 0, blockedRoom := [2], blockedPriv := [1] }

/-- a history with every kind of ingredient: list, join, late join after leave, grants for self and others -/
def hist0 : List Msg :=
  [ .roomList [0] [1] [] [1],
    .joinRoom 0 [⟨0, 2, ⟨1, 2, 3, 4⟩, 5, 6⟩, ⟨1, 1, ⟨1, 2, 3, 4⟩, 5, 6⟩] none [],
    .leaveRoom 0,
    .userJoined 0 2 2 ⟨9, 9, 9, 9⟩ 1 1,
    .joinRoom 0 [⟨0, 2, ⟨1, 2, 3, 4⟩, 5, 6⟩] none [],
    .operators 1 [2],
    .operatorGranted 1,
    .revokeMembership 1 2,
    .userStatus 1 0 true ]

example : ∀ m ∈ hist0, m.WF = true := by decide
/-- own operator grant adds (the unfixed handler discarded): operators of room 1 are exactly {me} -/
example : ((run env0 hist0).rooms.map (fun p => (p.1, p.2.operators))) = [(0, []), (1, [0])] := by decide
/-- the second `JoinRoom` replaces the user list (the unfixed handler kept the late joiner 2) -/
example : ((run env0 hist0).rooms.map (fun p => (p.1, p.2.users, p.2.joined))) = [(0, [0], true), (1, [], false)] := by decide
example : ((run env0 hist0).getUser 1).status = some 0 ∧ ((run env0 hist0).getUser 1).privileged = true := by decide
example : blocked env0 (.roomChat 0 2 7) = true ∧ blocked env0 (.privateChat 1 2 2 7 true) = false := by decide

end AioslskVerif.C19
