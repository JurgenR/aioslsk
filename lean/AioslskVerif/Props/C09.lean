import AioslskVerif.Proofs.Naming
/-!
# C09 — peer-chosen names never escape the download directory or clobber a file

The model is the code *after* fixes/C09-dot-components.patch, C09-empty-filename.patch,
C09-claim-download-path.patch, C09-dangling-symlink.patch and C09-unclaimed-path-kept.patch.
`chain fs ss remote` is `chain_strategies` run by `calculate_download_path` for the strategy list `ss`
(any list over the three shipped strategies, any order, repetitions allowed, the empty list included),
any remote path (any list of characters) and any content `fs` of the download directory.
`.error _` means the code raises: no path is chosen.
-/
namespace AioslskVerif.C09
open AioslskVerif.Naming

/-- **Inside — on the final joined path.** Whenever a path is chosen, every component of the
directory part and the file name are regular names (not empty, not `.`, not `..`, no `/` or `\`);
the string the code builds from them with `os.path.join` and hands to the operating system
(`finalPath`: no component is absolute, so the download directory is never thrown away) is
`/c₁/…/cₖ/name` below the download directory, and resolving that string the way the kernel does
(split at `/`; `''` and `.` stay, `..` goes up) never leaves the download directory and ends exactly at
`dir ++ [name]`, i.e. `|dir| + 1 ≥ 1` levels below it: strictly inside. The model applies no
normalisation between the filter and the join because the code applies none. -/
theorem C09_inside (fs : Fs) (ss : List Strategy) (remote : List Char) (d : Path) (n : Name)
    (h : chain fs ss remote = .ok (d, n)) :
    (∀ c ∈ d, Regular c) ∧
    ∃ s, finalPath d n = some s ∧ resolve s = some (d ++ [n]) ∧ walk (d ++ [n]) 0 = some (d.length + 1) := by
  obtain ⟨hd, hn⟩ := chain_regular h
  have hall : ∀ c ∈ d ++ [n], Regular c := List.forall_mem_append.mpr ⟨hd, List.forall_mem_singleton.mpr hn⟩
  obtain ⟨hj, hr⟩ := joinAll_resolve_regular (d ++ [n]) hall
  exact ⟨hd, _, hj, hr, by simpa using walk_regular (d ++ [n]) 0 hall⟩

/-- **Regular file name.** The chosen file name is never `''`, `.` or `..` and contains no
separator — for every chain, every remote path, every directory content. -/
theorem C09_regular_name (fs : Fs) (ss : List Strategy) (remote : List Char) (d : Path) (n : Name)
    (h : chain fs ss remote = .ok (d, n)) : Regular n :=
  (chain_regular h).2

/-- **Fresh.** For every chain that ends in the number-duplicate strategy (as the library's default
chain does) the chosen path does not exist when it is chosen: `os.path.exists` is false and the
name is not in `os.listdir` of the chosen directory. -/
theorem C09_fresh (fs : Fs) (ss : List Strategy) (remote : List Char) (d : Path) (n : Name)
    (hl : ss.getLast? = some .number) (h : chain fs ss remote = .ok (d, n)) :
    fs.pathExists d n = false ∧ n ∉ fs.listdir d := by
  have hf := chain_fresh hl h
  refine ⟨hf, ?_⟩
  rw [pathExists_regular _ _ (chain_regular h).2] at hf
  rw [← has_iff_mem_listdir, hf]
  simp

/-- the number-duplicate step itself: the new name is never one of the listed names, whatever the
listing (`next_index ∉ indices`, and every listed `stem (k)ext…` contributes `k` to `indices`). -/
theorem C09_numbered_not_listed (stem ext : Name) (listing : List Name) :
    numbered stem ext (nextIndex (listing.filterMap (matchIndex stem ext))) ∉ listing :=
  numbered_fresh stem ext listing

/-- **Distinct while holding a path.** Download tasks start (choose a path and claim it in one step
— `_prepare_download_path` has no suspension point between the two), end complete or cut off, and
are started again (a cut-off download resumes on the path it holds, a completed one forgets its path
and chooses anew), the user moves the files of completed downloads away and downloads are queued again
without being started yet — in any order, any number of them, with any remote paths, with an OSError
injected into any claiming step, over any initial directory content. For a chain ending in the
number-duplicate strategy no two downloads that hold a path at the same time hold the same one —
running or not — and each held path is regular and exists in the directory (it was claimed); the only
paths exempt are those of completed downloads whose file the user has moved away (`gone`): such a path
is still stored in the transfer object, but it is never used again (`C09_requeue_forgets_path`). -/
theorem C09_distinct_holders (fs0 : Fs) (ss : List Strategy) (ops : List Op)
    (hl : ss.getLast? = some .number) :
    (run ss { fs := fs0, dls := [] } ops).dls.Pairwise
        (fun a b => a.status ≠ .gone → b.status ≠ .gone → (a.dir, a.name) ≠ (b.dir, b.name)) ∧
    ∀ a ∈ (run ss { fs := fs0, dls := [] } ops).dls,
      Regular a.name ∧ (∀ c ∈ a.dir, Regular c) ∧
      (a.status ≠ .gone → (run ss { fs := fs0, dls := [] } ops).fs.has a.dir a.name = true) := by
  have h := run_inv hl ops { fs := fs0, dls := [] } ⟨nofun, .nil⟩
  exact ⟨h.2, h.1⟩

/-- **Distinct while active** (the property's wording): in particular the downloads whose task is
running at the same time never share a local path. -/
theorem C09_distinct_concurrent (fs0 : Fs) (ss : List Strategy) (ops : List Op)
    (hl : ss.getLast? = some .number) :
    (run ss { fs := fs0, dls := [] } ops).active.Pairwise
        (fun a b => (a.dir, a.name) ≠ (b.dir, b.name)) := by
  refine ((C09_distinct_holders fs0 ss ops hl).1.filter _).imp_of_mem fun ha hb hab => ?_
  have hsa := eq_of_beq (List.mem_filter.mp ha).2
  have hsb := eq_of_beq (List.mem_filter.mp hb).2
  exact hab (by rw [hsa]; decide) (by rw [hsb]; decide)

/-- **Queueing a finished download again forgets its path** — whether its file is still there or has
been moved away: afterwards the download holds no path, so when it is started (now or after any other
downloads have come and gone) it takes the `chooseAndClaim` branch — a name that is free at that moment —
and never the unchecked `resumed` one. A download that "gets its old place back" because the file is gone
would hold a name that nobody owns while it waits. -/
theorem C09_requeue_forgets_path (ss : List Strategy) (s : Sys) (id : Nat) (a : Dl)
    (hf : s.find id = some a) (hc : a.status = .complete ∨ a.status = .gone) :
    (step ss s (.requeue id)).1.find id = none ∧ (step ss s (.requeue id)).1.fs = s.fs ∧
    ∀ remote fault, ∀ d n, (step ss (step ss s (.requeue id)).1 (.start id remote fault)).2 ≠ .resumed d n := by
  have hdrop : (step ss s (.requeue id)).1 = { s with dls := s.drop id } := by
    simp only [step, hf]
    rw [if_pos hc]
  rw [hdrop]
  refine ⟨Sys.find_drop s.fs s id, rfl, fun remote fault d n => ?_⟩
  simp only [step, Sys.find_drop s.fs s id]
  fun_cases chooseAndClaim ss s.fs (s.drop id) id remote fault <;> nofun

/-- **Aborting an interrupted download deletes its own partial file and nothing else, and forgets the path.**
Afterwards the download holds no path (a later start chooses anew), its name is free, every other entry is where
it was and no entry appeared. -/
theorem C09_abort_forgets_and_frees (ss : List Strategy) (s : Sys) (id : Nat) (a : Dl)
    (hf : s.find id = some a) (hc : a.status = .broken) :
    (step ss s (.abort id)).1.find id = none ∧
    (step ss s (.abort id)).1.fs.has a.dir a.name = false ∧
    (∀ e ∈ s.fs, (e.dir, e.name) ≠ (a.dir, a.name) → e ∈ (step ss s (.abort id)).1.fs) ∧
    (∀ e ∈ (step ss s (.abort id)).1.fs, e ∈ s.fs) := by
  have hst : (step ss s (.abort id)).1 =
      { fs := s.fs.unlink a.dir a.name, dls := s.drop id } := by
    simp only [step, hf]
    rw [if_pos hc]
  rw [hst]
  exact ⟨Sys.find_drop _ s id, unlink_spec s.fs a.dir a.name⟩

/-- **A moved-away file frees its name and nothing else.** After the user has moved the file of a completed
download away, that name does not exist in the directory any more (the next download of an equally named
file may take it), every other entry is where it was, and no entry appeared. -/
theorem C09_remove_frees_only_its_name (ss : List Strategy) (s : Sys) (id : Nat) (a : Dl)
    (hf : s.find id = some a) (hc : a.status = .complete)
    (hthere : s.fs.any (fun e => e.dir == a.dir && e.name == a.name && !e.isDir) = true) :
    (step ss s (.remove id)).1.fs.has a.dir a.name = false ∧
    (∀ e ∈ s.fs, (e.dir, e.name) ≠ (a.dir, a.name) → e ∈ (step ss s (.remove id)).1.fs) ∧
    (∀ e ∈ (step ss s (.remove id)).1.fs, e ∈ s.fs) := by
  have hst : (step ss s (.remove id)).1.fs = s.fs.unlink a.dir a.name := by
    simp only [step, hf]
    rw [if_pos hc, if_pos hthere]
  rw [hst]
  exact unlink_spec s.fs a.dir a.name

/-- **The path used is the path that was checked.** When a starting download is given a path
(`chosen d n`), `(d, n)` is exactly what `chain_strategies` returned on the directory content of that
moment, it did not exist then, it exists afterwards, and no entry that existed before is gone. -/
theorem C09_claimed_is_checked (ss : List Strategy) (hl : ss.getLast? = some .number) (fs : Fs)
    (rest : List Dl) (id : Nat) (remote : List Char) (fault : Fault) (d : Path) (n : Name) (s' : Sys)
    (h : chooseAndClaim ss fs rest id remote fault = (s', .chosen d n)) :
    chain fs ss remote = .ok (d, n) ∧ fs.pathExists d n = false ∧ s'.fs.has d n = true ∧
    (∀ e ∈ fs, e ∈ s'.fs) ∧ s'.dls = { id := id, dir := d, name := n, status := .running } :: rest := by
  revert h
  fun_cases chooseAndClaim ss fs rest id remote fault
  all_goals intro h; cases h
  rename_i fs' hch hcl
  obtain ⟨hm, hs⟩ := claim_spec hcl
  exact ⟨hch, chain_fresh hl hch, (hs rfl).1, hm, rfl⟩

/-- **A failed claim leaves nothing behind.** When the chain raises or the claiming step fails with an
OSError (injected, a file in the way of the directory, a name longer than `NAME_MAX`), the download
holds no path afterwards (so nothing is "resumed" later on a path it never owned), and the downloads
that held a path hold the same one as before. -/
theorem C09_failed_claim_holds_nothing (ss : List Strategy) (fs : Fs) (rest : List Dl) (id : Nat)
    (remote : List Char) (fault : Fault) (s' : Sys) (o : Outcome)
    (h : chooseAndClaim ss fs rest id remote fault = (s', o))
    (ho : ∀ d n, o ≠ .chosen d n) : s'.dls = rest := by
  revert h
  fun_cases chooseAndClaim ss fs rest id remote fault
  all_goals intro h; cases h
  · rfl
  · rfl
  · exact absurd rfl (ho _ _)

/-- a name longer than `NAME_MAX` that no entry has yet is never claimed: the claim fails, whatever the fault -/
theorem C09_too_long_not_claimed (fs : Fs) (d : Path) (n : Name) (fault : Fault)
    (hfree : fs.has d n = false) (hl : tooLong n = true) : (claim fs d n fault).2 = false := by
  cases hc : claim fs d n fault with
  | mk fs' b =>
    cases b with
    | false => rfl
    | true =>
      have := ((claim_spec hc).2 rfl).2 hl
      rw [hfree] at this
      cases this

/-- **No refusal without reason** (so the theorems above are not vacuous: "raises" is not the way
the code satisfies them). A chain that contains the default strategy chooses a path for every remote
path that has at least one usable component (one that is not empty, `.` or `..`). (Without such a
component the default strategy raises `IndexError` and no path is chosen: the example with only dots below.) -/
theorem C09_chooses (fs : Fs) (ss : List Strategy) (remote : List Char)
    (hp : localParts remote ≠ []) (hd : Strategy.default ∈ ss) :
    ∃ d n, chain fs ss remote = .ok (d, n) := by
  obtain ⟨st, h⟩ := chain_chooses fs ss hp hd
  exact ⟨st.1, st.2, h⟩

/-! ### Non-vacuity: the theorems talk about paths that are really chosen -/

section Examples

-- the library's default chain on a traversal path: the `..` parts are dropped
example : (chain [] [.default, .number] ['a', '\\', '.', '.', '\\', '.', '.', '/', 'x']).toOption
    = some ([], ['x']) := by decide +kernel
-- keep-directory with `..` as the containing directory: the directory before it is used
example : (chain [] [.default, .keepDir, .number] ['q', '\\', '.', '.', '\\', 'x']).toOption
    = some ([['q']], ['x']) := by decide +kernel
-- a taken name is numbered, the gap in the numbering is used
example : (chain [⟨[], ['x'], false⟩, ⟨[], ['x', ' ', '(', '1', ')'], false⟩, ⟨[], ['x', ' ', '(', '3', ')'], false⟩]
    [.default, .number] ['x']).toOption = some ([], ['x', ' ', '(', '2', ')']) := by decide +kernel
-- only dots: nothing usable, the code raises (no path chosen)
example : (chain [] [.default, .number] ['.', '.', '\\', '.']).toOption = none := by decide +kernel
-- a chain that never names the file raises instead of returning ''
example : (chain [] [.keepDir] ['a', '\\', 'b']).toOption = none := by decide +kernel
-- two downloads of the same remote file, both active: different local paths
example : ((run [.default, .number] { fs := [], dls := [] }
    [.start 1 ['a', '\\', 'x'] .none, .start 2 ['b', '\\', 'x'] .none]).active.map (·.name))
    = [['x', ' ', '(', '1', ')'], ['x']] := by decide +kernel
-- the claim of download 1 fails (EMFILE), download 2 takes the name, download 1 is started again:
-- it holds nothing, chooses anew and gets the numbered name
example : ((run [.default, .number] { fs := [], dls := [] }
    [.start 1 ['x'] .open, .start 2 ['x'] .none, .start 1 ['x'] .none]).active.map (fun a => (a.id, a.name)))
    = [(1, ['x', ' ', '(', '1', ')']), (2, ['x'])] := by decide +kernel
-- a cut-off download resumes on its own path; a completed one chooses anew
example : ((run [.default, .number] { fs := [], dls := [] }
    [.start 1 ['x'] .none, .cut 1, .start 2 ['x'] .none, .finish 2, .start 1 ['x'] .none, .start 2 ['x'] .none]
    ).active.map (fun a => (a.id, a.name)))
    = [(2, ['x', ' ', '(', '2', ')']), (1, ['x'])] := by decide +kernel
-- download 1 completes, the user moves its file away, it is queued again and waits; download 2 takes the free name;
-- download 1 starts: it holds nothing, chooses anew and gets the numbered name (it does not "get its place back")
example : ((run [.default, .number] { fs := [], dls := [] }
    [.start 1 ['x'] .none, .finish 1, .remove 1, .requeue 1, .start 2 ['x'] .none, .start 1 ['x'] .none]
    ).active.map (fun a => (a.id, a.name)))
    = [(1, ['x', ' ', '(', '1', ')']), (2, ['x'])] := by decide +kernel
-- the hypotheses of `C09_requeue_forgets_path` / `C09_remove_frees_only_its_name` are met by a reachable state
example : ((run [.default, .number] { fs := [], dls := [] } [.start 1 ['x'] .none, .finish 1]).find 1).map (·.status)
    = some .complete := by decide +kernel
-- the final path string of a kept directory, and where it leads
example : finalPath [['q']] ['x'] = some ['/', 'q', '/', 'x'] ∧ resolve ['/', 'q', '/', 'x'] = some [['q'], ['x']] := by
  decide +kernel
-- what `resolve` says about strings that the chain never produces
example : resolve ['/', '.', '.', '/', 'x'] = none ∧ resolve ['/', 'q', '/', '.', '.', '/', 'x'] = some [['x']] ∧
    finalPath [] ['/', 'e', 't', 'c'] = none := by decide +kernel
end Examples

end AioslskVerif.C09
