import AioslskVerif.Proofs.PeerWire
import AioslskVerif.Proofs.Conn
/-!
# C11 — connecting to a peer succeeds iff a path works, and leaves nothing behind

Property theorems only (models: `Model/PeerConnect.lean`, `Model/Conn.lean`; helpers: `Proofs/PeerConnect.lean`,
`Proofs/PeerWire.lean`, `Proofs/Conn.lean`).  The model is the code **with** `fixes/C10-connect-cancel-or-closed.patch`,
`fixes/C11-attempt-cleanup.patch`, `fixes/C11-pierce-coincidence.patch`, `fixes/C11-listener-windows.patch`,
`fixes/C11-disconnect-cancel-safe.patch` and `fixes/C11-race-cancel-orphan.patch` applied.

`run mode lookup srvFail ops` is the state of one `create_peer_connection` request, in fallback or race
mode, with or without an address look-up, with the ConnectToPeer write succeeding or failing, after any
list of completions in any order — address reply (valid / none / no port), connect ok with PeerInit written
/ PeerInit write failing / refused / timeout, a peer piercing with the ticket, CannotConnect, the 60 s
timer, cancellation of the request, **and `note n`: the application listeners of notification `n`
(CONNECTING / CONNECTED / PeerInitializedEvent / CLOSING / CLOSED of the outgoing connection, of the
connection being accepted, of the winner being closed) have returned** — including completions that arrive
after the request has finished.  Between a notification and its `note` the task that emitted it is suspended
inside a listener; every other op may come in between, so the theorems cover every completion and every
cancellation landing while any listener invocation along the connect paths is suspended.  `pierce o`: the peer comes
in on our clear (`o = false`) or obfuscated listening port; `probe`: the caller uses the connection it was given.

`xrun typ dialObf mode lookup srvFail ops` is the same run together with the wire-level state of the connection
objects (`X`): requested type `P` / `D` / `F`, whether the dialled port is an obfuscated one, `obfuscated` /
`connection_state` / reader task of each object, and the encoding PeerInit went out in (`C11_wire_*`).
-/
namespace AioslskVerif.C11
open AioslskVerif.PeerConnect

/-- The request returns the direct connection exactly when the direct attempt succeeded, and the pierced
connection exactly when the indirect attempt succeeded and the (cancelled) direct attempt has finished closing
its connection; what it returns is registered, open and initialised. -/
theorem C11_returns_iff (m : Mode) (l f : Bool) (ops : List Op) :
    let s := run m l f ops
    (s.res = .returnedD ↔ s.d = .ok) ∧ (s.res = .returnedI ↔ (s.i = .ok ∧ s.d ≠ .cClosing ∧ s.d ≠ .cClosed)) ∧
      (s.d = .ok → s.dc = .open ∧ s.ps = true) ∧ (s.i = .ok → s.ic = true) :=
  (good_facts (good_run m l f ops)).1

/-- It raises `PeerConnectionError` exactly when both attempts failed; in fallback mode the indirect
attempt is only made after the direct one failed. -/
theorem C11_raises_otherwise (m : Mode) (l f : Bool) (ops : List Op) :
    let s := run m l f ops
    (s.res = .raised ↔ (s.d = .failed ∧ s.i = .failed)) ∧
      (s.mode = .fallback → s.i ≠ .notStarted → s.d = .failed) :=
  (good_facts (good_run m l f ops)).2.1

/-- Once the request has returned, raised or been cancelled — wherever the deciding completion or the
cancellation landed, also inside a listener, and whatever arrives afterwards — no waiter for the ticket, for
CannotConnect or for the address remains, neither attempt is still running or closing anything, and the only
registered / open connection the request created is the one it returned: the loser's is closed and
unregistered. -/
theorem C11_no_leftovers (m : Mode) (l f : Bool) (ops : List Op) :
    let s := run m l f ops
    s.res ≠ .pending →
      s.tw = false ∧ s.rw = false ∧ s.aw = false ∧
      (s.dc ≠ .none → s.res = .returnedD ∧ s.dc = .open) ∧ (s.ic = true → s.res = .returnedI) ∧
      dRunning s.d = false ∧ s.i ≠ .waiting ∧ s.i ≠ .wClosing ∧ s.i ≠ .wClosed :=
  (good_facts (good_run m l f ops)).2.2.1

/-- A finished request stays finished: later completions (late pierce, late CannotConnect, listeners
returning, …) do not change what it returned. -/
theorem C11_result_final (m : Mode) (l f : Bool) (ops : List Op) (op : Op)
    (h : (run m l f ops).res ≠ .pending) : (run m l f (ops ++ [op])).res = (run m l f ops).res := by
  rw [run_append]
  exact res_stepT op (good_run m l f ops) h

/-- Listeners cannot wedge a request.  From any reachable state, once every outstanding listener invocation
has returned (`drainOps`: one acknowledgement per notification, no other completion): no notification is
outstanding and no accepted connection is half-handled; a request that had finished is unchanged; a request
whose cancellation was requested has ended as cancelled; and a request that is still pending is waiting for the
environment — the address, the connect outcome, or the peer / the server / the 60 s timer. -/
theorem C11_listeners_return (m : Mode) (l f : Bool) (ops : List Op) :
    let s := run m l f ops
    let t := run m l f (ops ++ drainOps)
    settled t = true ∧ (s.res ≠ .pending → t.res = s.res) ∧ (s.cr = true → t.res = .cancelled) ∧
      (t.res = .pending → t.d = .addr ∨ t.d = .opening ∨ t.i = .waiting) := by
  have h := (good_facts (good_run m l f ops)).2.2.2
  rw [drain_eq, ← run_append] at h
  exact h

/-- Cancellation of the request — delivered at any point, e.g. while a listener is being told CONNECTED, or while
the race is waiting for the loser to close — leaves nothing behind: once the listeners have returned the request
has ended as cancelled, nothing it created is registered or open, and no waiter remains. -/
theorem C11_cancel_leaves_nothing (m : Mode) (l f : Bool) (ops : List Op) (h : (run m l f ops).cr = true) :
    let t := run m l f (ops ++ drainOps)
    t.res = .cancelled ∧ t.dc = .none ∧ t.ic = false ∧ t.a = .none ∧ t.tw = false ∧ t.rw = false ∧ t.aw = false := by
  intro t
  have hd := C11_listeners_return m l f ops
  have hres : t.res = .cancelled := hd.2.2.1 h
  obtain ⟨htw, hrw, haw, hdc, hic, -⟩ := C11_no_leftovers m l f (ops ++ drainOps) (by show t.res ≠ .pending; rw [hres]; decide)
  have ha : t.a = .none := by
    have := hd.1
    simp only [settled, Bool.and_eq_true, beq_iff_eq] at this
    exact this.1.1.2
  refine ⟨hres, ?_, ?_, ha, htw, hrw, haw⟩
  · exact Decidable.byContradiction fun hne => absurd ((hdc hne).1.symm.trans hres) (by decide)
  · cases hreg : t.ic with
    | false => rfl
    | true => exact absurd ((hic hreg).symm.trans hres) (by decide)

/-- `select_port` returns an available port whenever one exists, of the kind it says, and the preferred
kind when both exist. -/
theorem C11_select_port (prefer : Bool) (port obfs : Nat) (h : port ≠ 0 ∨ obfs ≠ 0) :
    let r := selectPort prefer port obfs
    r.1 ≠ 0 ∧ (r.2 = true → r.1 = obfs) ∧ (r.2 = false → r.1 = port) ∧
      (port ≠ 0 → obfs ≠ 0 → r.2 = prefer) := by
  simp only [selectPort]
  by_cases hp : port = 0 <;> by_cases ho : obfs = 0 <;> cases prefer <;> simp_all

/-- Connect-back (`_handle_connect_to_peer`, modelled in `Model/Conn.lean`): when the attempt is over, the
asking peer has been sent a PeerPierceFirewall, or the server a CannotConnect — unless the connect-back
task itself was cancelled.  (Assumes the server connection is up.) -/
theorem C11_connect_back (ops : List Conn.Op) (c : Conn.Conn) (hc : c ∈ (Conn.run ops).conns)
    (hb : c.k.origin = .back) (hover : c.k.att = .idle) :
    Conn.Ev.wrote ∈ c.evs ∨ Conn.Ev.cc ∈ c.evs ∨ Conn.Ev.attRes .cancelled ∈ c.evs := by
  obtain ⟨e, he, ha⟩ := List.any_eq_true.mp ((Conn.inv_run ops c hc).back hb (by simp [Conn.backDone, hover]))
  rcases Conn.answered_iff.mp ha with rfl | rfl | rfl
  · exact Or.inl he
  · exact Or.inr (Or.inl he)
  · exact Or.inr (Or.inr he)

/-! ### The far end: "initialised, usable" as the peer sees it -/

/-- The wire-level run is the run the theorems above are about: every `C11_*` statement on `run` holds of `(xrun …).s`. -/
theorem C11_wire_projection (t : CT) (o : Bool) (m : Mode) (l f : Bool) (ops : List Op) :
    (xrun t o m l f ops).s = run m l f ops := xrun_s t o m l f ops

/-- Whenever PeerInit has reached the peer — whatever was delivered before, in between and after, for every
connection type — it went out in the encoding of the port that was dialled (obfuscated on an obfuscated port, in clear on a
clear one): a peer that follows the protocol can read it.  Before that nothing has been written. -/
theorem C11_wire_peer_reads_init (t : CT) (o : Bool) (m : Mode) (l f : Bool) (ops : List Op) :
    let x := xrun t o m l f ops
    (x.s.ps = true → x.initEnc = some o) ∧ (x.s.ps = false → x.initEnc = none) := by
  have hinv := xrun_inv t o m l f ops
  generalize xrun t o m l f ops = x at hinv
  obtain ⟨hw, _, _, rfl⟩ := hinv
  simp only [hw.enc]
  constructor <;> intro hp <;> rw [hp] <;> rfl

/-- What the request returns is usable at the far end.  Direct connection: the peer has read PeerInit, the connection has
left AWAITING_INIT, from now on it obfuscates / de-obfuscates exactly when the protocol says so for its type and the
dialled port (`P` on an obfuscated port: yes; `D`, `F`, any clear port: no), and incoming bytes go to the reader task
(`P`, `D`) or are left to the caller (`F`).  Pierced connection: the same with respect to the listening port the peer came
in on. -/
theorem C11_wire_returned_usable (t : CT) (o : Bool) (m : Mode) (l f : Bool) (ops : List Op) :
    let x := xrun t o m l f ops
    (x.s.res = .returnedD → x.initEnc = some o ∧ txOK t o x.dw = true ∧ rxOK t o x.dw = true) ∧
    (x.s.res = .returnedI → txOK t x.iObf x.iw = true ∧ rxOK t x.iObf x.iw = true) := by
  have hinv := xrun_inv t o m l f ops
  generalize xrun t o m l f ops = x at hinv
  obtain ⟨hw, hg, rfl, rfl⟩ := hinv
  obtain ⟨hD, hI, hDok, hIok⟩ := (good_facts hg).1
  refine ⟨fun h => ?_, fun h => ?_⟩
  · simp only [hw.enc, hw.dw, (hDok (hD.mp h)).2, if_true, usable_finalized, and_self]
  · simp only [hw.ic (hIok (hI.mp h).1), usable_finalized, and_self]

/-- `probe` (the caller sends one message and is sent one) succeeds both ways on every connection a request returns. -/
theorem C11_wire_probe_succeeds (t : CT) (o : Bool) (m : Mode) (l f : Bool) (ops : List Op) :
    let x := xrun t o m l f ops
    (x.s.res = .returnedD ∨ x.s.res = .returnedI) → usable x = some (true, true) := by
  have hinv := xrun_inv t o m l f ops
  have hU := C11_wire_returned_usable t o m l f ops
  generalize xrun t o m l f ops = x at hinv hU ⊢
  obtain ⟨_, _, ht, ho⟩ := hinv
  obtain ⟨hD, hI⟩ := hU
  show (x.s.res = .returnedD ∨ x.s.res = .returnedI) → usable x = some (true, true)
  intro h
  rcases h with h | h
  · obtain ⟨h1, h2, h3⟩ := hD h
    simp [usable, h, ht, ho, h1, h2, h3]
  · obtain ⟨h2, h3⟩ := hI h
    simp [usable, h, ht, h2, h3]

/-- Connect-back: the PeerPierceFirewall we write goes out in the encoding of the port the asking peer told us to dial, and
the connection is then usable by the protocol's rule for its type. -/
theorem C11_wire_connect_back (t : CT) (o : Bool) :
    (connectBackWire t o).1 = o ∧ txOK t o (connectBackWire t o).2 = true ∧ rxOK t o (connectBackWire t o).2 = true :=
  ⟨rfl, usable_finalized t o⟩

/-- Connect-back from the message up, over EVERY port situation of the ConnectToPeer — clear / obfuscated port present, 0
or (the obfuscated one) absent from the message, also no usable port at all — every preference, type and outcome of the
dial: when the task is over the asking peer has been answered exactly one way — PeerPierceFirewall when connect and write
succeeded (then the connection is registered, was dialled on a real port and is what `C11_wire_connect_back` is about),
CannotConnect to the server otherwise (nothing stays registered); the dial is `select_port`'s choice
(`C11_select_port`); and a request without any port is answered with CannotConnect. -/
theorem C11_connect_back_every_port_situation (t : CT) (prefer : Bool) (port : Nat) (obfs : Option Nat) (how : BackHow)
    (r : BackOut) (h : connectBack t prefer port obfs how = some r) :
    (r.pierced = true ∨ r.cc = true) ∧ (r.pierced = true ↔ how = .ok) ∧ (r.cc = true ↔ how ≠ .ok) ∧
    (r.pierced = true → r.registered = true ∧ r.dial.1 ≠ 0 ∧ r.wire = some (connectBackWire t r.dial.2)) ∧
    (r.cc = true → r.registered = false ∧ r.wire = none) ∧
    r.dial = selectPort prefer port (obfs.getD 0) ∧
    (port = 0 → obfs.getD 0 = 0 → r.dial.1 = 0 ∧ r.cc = true) := by
  simp only [connectBack] at h
  split at h
  · exact absurd h (by simp)
  next hn =>
    -- `r` is the record of the branch of `how`; what is not read off it is about the port dialled
    have hzero : port = 0 → obfs.getD 0 = 0 → (selectPort prefer port (obfs.getD 0)).1 = 0 :=
      fun hp ho => (selectPort_zero ..).mpr ⟨hp, ho⟩
    cases how <;> simp only [Option.some.injEq] at h <;> subst h
    case ok =>
      -- the guard `hn`: a connect that succeeds is not to port 0
      have hd : (selectPort prefer port (obfs.getD 0)).1 ≠ 0 := fun h0 => hn ⟨h0, by decide⟩
      exact ⟨.inl rfl, by simp, by simp, fun _ => ⟨rfl, hd, rfl⟩, by simp, rfl, fun hp ho => absurd (hzero hp ho) hd⟩
    case refused | writeFails =>
      exact ⟨.inr rfl, by simp, by simp, by simp, fun _ => ⟨rfl, rfl⟩, rfl, fun hp ho => ⟨hzero hp ho, rfl⟩⟩

/-- … and the model answers every request the environment can produce: only "port 0 was dialled and the connect did not
fail" is excluded. -/
theorem C11_connect_back_total (t : CT) (prefer : Bool) (port : Nat) (obfs : Option Nat) (how : BackHow) :
    connectBack t prefer port obfs how = none ↔ (port = 0 ∧ obfs.getD 0 = 0 ∧ how ≠ .refused) := by
  simp only [connectBack, selectPort_zero]
  cases how <;> simp

/-! Non-vacuity -/

-- race: the direct attempt wins (no listener suspends: each notification is acknowledged at once) while the indirect
-- one waits; both waiters are gone; a late pierce is accepted, found unowned and closed again
example : (run .race false false [.note .dConnecting, .connectOk true, .note .dConnected, .note .dInit, .pierce false,
      .note .aConnected, .note .aClosing, .note .aClosed]) =
    { mode := .race, srvFail := false, cr := false, d := .ok, i := .cancelled, a := .none, dc := .open, ic := false,
      ps := true, tw := false, rw := false, aw := false, res := .returnedD } := by decide
-- race, the class of seeded/C11-f: the peer pierces while listeners are being told that the direct socket is CONNECTED:
-- the direct attempt is cancelled inside that listener and closes its connection (CLOSING, CLOSED notifications)
example : (run .race false false [.note .dConnecting, .connectOk true, .pierce false, .note .aConnected, .note .aInit]) =
    { mode := .race, srvFail := false, cr := false, d := .cClosing, i := .ok, a := .none, dc := .open, ic := true,
      ps := false, tw := false, rw := false, aw := false, res := .pending } := by decide
example : (run .race false false [.note .dConnecting, .connectOk true, .pierce false, .note .aConnected, .note .aInit,
      .note .dClosing, .note .dClosed]) =
    { mode := .race, srvFail := false, cr := false, d := .cancelled, i := .ok, a := .none, dc := .none, ic := true,
      ps := false, tw := false, rw := false, aw := false, res := .returnedI } := by decide
-- race: the request is cancelled while the loser is being closed (the `gather`): the winner is closed as well
example : (run .race false false [.note .dConnecting, .pierce false, .note .aConnected, .note .aInit, .cancelRequest,
      .note .dClosed]) =
    { mode := .race, srvFail := false, cr := true, d := .cancelled, i := .wClosing, a := .none, dc := .none, ic := true,
      ps := false, tw := false, rw := false, aw := false, res := .pending } := by decide
-- the 60 s timer fires while listeners are being told that the pierced connection is initialised: the request raises,
-- the accept task finds the waiter gone and closes the connection
example : (run .fallback false false [.note .dConnecting, .connectRefused, .note .dClosing, .note .dClosed, .pierce false,
      .note .aConnected, .indirectTimeout, .note .aInit]) =
    { mode := .fallback, srvFail := false, cr := false, d := .failed, i := .failed, a := .nClosing, dc := .none,
      ic := false, ps := false, tw := false, rw := false, aw := false, res := .raised } := by decide
-- fallback with look-up: no address → indirect → CannotConnect → raised, nothing left
example : (run .fallback true false [.addrReply .noAddr, .cannotConnect]) =
    { mode := .fallback, srvFail := false, cr := false, d := .failed, i := .failed, a := .none, dc := .none, ic := false,
      ps := false, tw := false, rw := false, aw := false, res := .raised } := by decide
-- fallback: ConnectToPeer cannot be written → raised, both waiters cleared
example : (run .fallback false true [.note .dConnecting, .connectRefused, .note .dClosing, .note .dClosed]).res = .raised ∧
    (run .fallback false true [.note .dConnecting, .connectRefused, .note .dClosing, .note .dClosed]).tw = false := by
  decide
-- a pending request with live waiters exists (the hypotheses above are not vacuous)
example : (run .race true false []).tw = true ∧ (run .race true false []).aw = true ∧ (run .race true false []).res = .pending := by
  decide
-- a cancelled request whose direct attempt is still inside a listener exists (hypothesis of C11_cancel_leaves_nothing)
example : (run .fallback false false [.cancelRequest]).cr = true ∧ (run .fallback false false [.cancelRequest]).d = .cClosing ∧
    (run .fallback false false [.cancelRequest]).res = .pending := by decide
-- the class of seeded/C11-k: a file connection to a peer that only has an obfuscated port: PeerInit goes out obfuscated,
-- the connection then carries on in clear with no reader task (the transfer code reads the socket)
example : let x := xrun .file true .fallback false false [.note .dConnecting, .connectOk true, .note .dConnected, .note .dInit]
    x.s.res = .returnedD ∧ x.initEnc = some true ∧ x.dw = { obf := false, fin := true, reader := false } ∧
      usable x = some (true, true) := by decide
-- a `P` connection on the same port stays obfuscated and has a reader
example : (xrun .peer true .race false false [.note .dConnecting, .connectOk true, .note .dConnected, .note .dInit]).dw =
    { obf := true, fin := true, reader := true } := by decide
-- a distributed connection that pierced through our obfuscated listening port: in clear after the handshake, with a reader
example : let x := xrun .distributed false .fallback false false [.note .dConnecting, .connectRefused, .note .dClosing,
      .note .dClosed, .pierce true, .note .aConnected, .note .aInit]
    x.s.res = .returnedI ∧ x.iObf = true ∧ x.iw = { obf := false, fin := true, reader := true } ∧
      usable x = some (true, true) := by decide
-- nothing is probed before the request has returned
example : usable (xrun .peer false .race false false [.note .dConnecting, .connectOk true]) = none := by decide
-- connect-back that is refused reports CannotConnect
example : (Conn.run [.new .back false false, .at 0 .connectFail]).conns.map (fun c => (c.k.att, c.evs)) =
    [(.idle, [.st .connecting .unknown, .st .closing .connectFailed, .st .closed .connectFailed, .attRes .fail, .cc])] := by
  decide
-- the class of seeded/C11-n: a ConnectToPeer with no port at all (clear 0, obfuscated-port fields absent / 0): port 0 is
-- dialled, refused, and the server is told CannotConnect; with a port that accepts, the peer is pierced instead
example : connectBack .peer false 0 none .refused =
    some { dial := (0, true), pierced := false, cc := true, registered := false, wire := none } := by decide
example : connectBack .file true 0 (some 0) .refused =
    some { dial := (0, true), pierced := false, cc := true, registered := false, wire := none } := by decide
example : connectBack .file true 2234 (some 2235) .ok =
    some { dial := (2235, true), pierced := true, cc := false, registered := true,
           wire := some (true, { obf := false, fin := true, reader := false }) } := by decide
example : connectBack .peer true 2234 none .writeFails =
    some { dial := (2234, false), pierced := false, cc := true, registered := false, wire := none } := by decide

end AioslskVerif.C11
