import AioslskVerif.Proofs.Rate
/-!
# C20 — configured bandwidth limits are never exceeded and never stall a transfer

Time unit: tick = 1/1024 s, so a limit of `L` bytes/s credits `L * ticks / 1024` bytes and the
window bound `grants ≤ L·T + L` reads `1024 * grants ≤ L * ticks + 1024 * L`.
-/
namespace AioslskVerif.C20
open AioslskVerif.Rate AioslskVerif.Generated.Rate

/-- With no limit a request for tokens is answered at once with a positive grant. -/
theorem C20_unlimited (b last now : Nat) :
    (Limiter.poll (.unlimited b last) now).2 = unlimitedGrant ∧ 0 < unlimitedGrant := by
  exact ⟨rfl, by decide⟩

/-- `create_limiter` + `copy_tokens`: 0 means unlimited (the bucket and the refill clock of the replaced
limiter are kept for the limiter that will replace this one), anything else a limited limiter of
`kbps·1024` B/s that takes over the old tokens (capped) and the old refill clock. -/
theorem C20_create (old : Limiter) (kbps : Nat) :
    (kbps = 0 → setLimit old kbps = .unlimited old.bucket old.last) ∧
    (0 < kbps → ∃ l, setLimit old kbps = .limited l ∧ l.L = kbps * bytesPerKb ∧ l.bucket ≤ l.L ∧
        l.bucket ≤ old.bucket ∧ l.last = old.last) := by
  refine ⟨fun h => h ▸ setLimit_zero old, fun h => ?_⟩
  exact ⟨_, setLimit_pos old kbps (Nat.ne_of_gt h), rfl, Nat.min_le_left _ _, Nat.min_le_right _ _, rfl⟩

/-- **Window bound, every run (limit changes and periods without a limit included).**
For any sequence of polls and limit changes (all limits ≤ `Lmax`; 0 = "no limit" allowed) starting from any
well-formed limiter object, the bytes granted *while a limit is in force* are at most `Lmax·T + Lmax` plus one
grant quantum (128 B) per "full-bucket" event — at most one at the start of the window and one per limit
change. Passing through "no limit" hands out nothing extra: the unlimited limiter keeps the bucket and the
refill clock for its successor. The quantum term is the known finding `C20-full-bucket-stale-clock`: a poll
that finds the bucket full does not advance the refill clock, so the next refill credits the idle period again. -/
theorem C20_window_piecewise_partial (Lmax : Nat) (ops : List Op) (lim : Limiter) (now G : Nat)
    (hwf : lim.WF now Lmax) (hops : LimitsWithin Lmax ops) :
    1024 * ((run { lim := lim, now := now, granted := G } ops).granted - G)
      ≤ Lmax * elapsed ops + 1024 * Lmax + 1024 * minBucket * (1 + changes ops) := by
  obtain ⟨_, _, h⟩ := run_phi Lmax ops lim now G hwf hops
  have h1 := Nat.le_trans (le_phiL _ _ _ _) h
  have h2 := phiL_le Lmax lim now G
  rw [Nat.mul_add, Nat.mul_one]
  omega

/-- **Window bound at full strength** (`grants ≤ L·T + L`) for a limiter whose bucket is not
full when the window starts, over any number of polls with any gaps. -/
theorem C20_window (ops : List Op) (l : Lim) (now G : Nat)
    (hwf : l.WF now) (hnf : l.bucket < l.L) (hops : LimitsWithin l.L ops) (hnc : changes ops = 0) :
    1024 * ((run { lim := .limited l, now := now, granted := G } ops).granted - G)
      ≤ l.L * elapsed ops + 1024 * l.L := by
  obtain ⟨_, _, h⟩ := run_phi l.L ops (.limited l) now G ⟨hwf, Nat.le_refl _⟩ hops
  have h1 := Nat.le_trans (le_phiL _ _ _ _) h
  have h2 : phiL l.L (.limited l) now G ≤ _ := phi_le_notfull l.L l now G hnf
  rw [hnc] at h1
  omega

/-- The full-strength bound is **false** of the code as it stands when the window starts on a
full bucket whose refill clock is stale (known finding; replayed on the implementation by the
check): 1 KiB/s, bucket full, idle for 10 s, then 9 polls at the same instant are granted
1152 bytes > 1024. -/
theorem C20_window_counterexample :
    ¬ (1024 * ((run { lim := .limited { L := 1024, bucket := 1024, last := 0 }, now := 10240, granted := 0 }
          (List.replicate 9 (.poll 0))).granted - 0) ≤ 1024 * elapsed (List.replicate 9 (.poll 0)) + 1024 * 1024) := by
  decide

/-- Bucket never exceeds the limit, whatever the history (limit changes, periods without a limit). -/
theorem C20_bucket_bounded (Lmax : Nat) (ops : List Op) (lim : Limiter) (now G : Nat)
    (hwf : lim.WF now Lmax) (hops : LimitsWithin Lmax ops) :
    ∀ l', (run { lim := lim, now := now, granted := G } ops).lim = .limited l' →
      l'.bucket ≤ l'.L ∧ l'.L ≤ Lmax := by
  intro l' hl
  obtain ⟨h1, _, _⟩ := run_phi Lmax ops lim now G hwf hops
  rw [hl] at h1
  exact ⟨h1.1.1, h1.2⟩

/-- **Progress, lone waiter.** With a positive limit (`L ≥ 1024`) a poller that re-polls no sooner
than 10 ticks (< `INTERVAL` = 10 ms) after an empty poll is granted tokens within 16 polls. -/
theorem C20_single_waiter_bounded (l : Lim) (now : Nat) (dts : List Nat) (hwf : l.WF now)
    (hL : 1024 ≤ l.L) (hd : ∀ d ∈ dts, 10 ≤ d) (hlen : 16 ≤ dts.length) :
    0 < (polls l now dts).2.2 := by
  apply Nat.pos_of_ne_zero
  intro hz
  have hne : dts ≠ [] := by intro h; simp [h] at hlen
  have := polls_starved dts l now hwf hL hd hz
  have := (polls_empty dts l now hwf hL hz).2.2.2.1 hne
  omega

/-- **Progress without the lock's discipline (up to four pollers polling independently).** This is the theorem that
was provable of the limiter BEFORE the FIFO lock was added (fix dde9e7c): when each of up to four pollers re-polls no
sooner than 10 ticks after its own last empty poll, any four consecutive gaps of the merged poll sequence add up to at
least 10 ticks; then within 26 such blocks (104 polls) *some* poller is granted tokens — which one is not bounded (that
gap is what exposed the starvation defect). With the lock only the holder polls; the per-request bound for any number
of connections is `C20_bounded_wait` below. The statement is about `poll` sequences in general. -/
theorem C20_some_waiter_progress (l : Lim) (now : Nat) (bs : List (Nat × Nat × Nat × Nat))
    (hwf : l.WF now) (hL : 1024 ≤ l.L) (hd : ∀ b ∈ bs, 10 ≤ b.1 + b.2.1 + b.2.2.1 + b.2.2.2)
    (hlen : 26 ≤ bs.length) : 0 < (blockPolls l now bs).2.2 := by
  apply Nat.pos_of_ne_zero
  intro hz
  have := blocks_starved bs l now hwf hL hd hz
  omega

/-- **FIFO service order.** Over every history of requests (`take_tokens()` calls) and wake-ups of the lock holder on
one limiter object: the pollers served so far, followed by the lock holder and the queue, are exactly the pollers in
order of arrival. Hence requests are granted in the order in which they were made and nobody is overtaken. -/
theorem C20_fifo_order (ops : List LOp) (lim : Lim) (now : Nat) :
    let s := lrun { o := { lim := lim, holder := none, queue := [] }, now := now, arrivals := [], served := [] } ops
    s.served ++ waitingList s.o = s.arrivals := by
  exact (lrun_fifo ops _ (by intro _; rfl) (by simp [waitingList])).1

/-- **Window bound for the whole network** — every file connection together, through the FIFO lock of the limiter,
through limit changes at run time (requests pending on a replaced limiter object are handed to its successor) and
through periods without a limit. For ANY history of requests (`take_tokens()` calls of any connection), wake-ups of lock
holders after any sleep, and `set_*_speed_limit` calls (every limit ≤ `Lmax`, 0 = none), in any interleaving: the tokens
granted while a limit is in force are at most `Lmax·T + Lmax`, plus one grant quantum at the start and per limit change
(the known finding `C20-full-bucket-stale-clock`). Proof: every such grant is a poll of the *current* limiter object
(`netPoll_evolves`: a replaced object never grants), so the potential argument of the single limiter carries over. -/
theorem C20_network_window_partial (Lmax : Nat) (ops : List NOp) (s : NRun)
    (hwf : s.net.cur.limiter.WF s.net.now Lmax) (hops : NLimitsWithin Lmax ops) :
    1024 * ((nrun s ops).granted - s.granted)
      ≤ Lmax * nelapsed ops + 1024 * Lmax + 1024 * minBucket * (1 + nchanges ops) := by
  obtain ⟨_, h⟩ := nrun_phi Lmax ops s hwf hops
  have h1 := Nat.le_trans (le_phiL _ _ _ _) h
  have h2 := phiL_le Lmax s.net.cur.limiter s.net.now s.granted
  rw [Nat.mul_add, Nat.mul_one]
  omega

/-- **No request is lost or served twice, also across limit changes.** Over every history of requests, wake-ups and
`set_*_speed_limit` calls on the whole network of limiter objects: the requests granted so far, together with the
requests that hold or wait for the lock of some limiter object (replaced objects included), are a permutation of the
requests made. A request pending on a replaced limiter is handed on — never dropped, never duplicated — and by
`C20_bounded_wait` it is then served on the current object within a bounded number of wake-ups. -/
theorem C20_no_request_lost (ops : List NOp) (s : NGhost) (h : s.Inv) : (grun s ops).Inv :=
  grun_inv ops s h

/-- **Bytes follow grants.** Over any history of grants and reads on any number of file connections, counted from
any moment on: the bytes moved since then are at most the tokens granted since then plus the tokens the connections
were holding at that moment — at most one grant per connection (`gmax` = 128 B under a limit, 8192 B if the grant
was taken while no limit was in force). Together with `C20_window_piecewise_partial` (a bound on the *grants* of a
window) this bounds the *bytes* of a window: `Lmax·T + Lmax + quanta + k·gmax`. -/
theorem C20_bytes_follow_grants (s : XSt) (evs : List XEv) (gmax : Nat) (hh : ∀ x ∈ s.holding, x ≤ gmax) :
    (xrun s evs).moved - s.moved ≤ ((xrun s evs).granted - s.granted) + s.holding.length * gmax := by
  have h1 := xrun_inv evs s
  have := sum_le_of_all_le s.holding gmax hh
  omega

/-- The term `k·gmax` cannot be dropped — the literal statement "bytes moved in a window ≤ what the limit grants in
that window" is **false** of the download direction as it stands (known finding `C20-inflight-read-grants`, replayed
on the real `receive_file` by the check): two connections were each granted 128 B before the window began; in the
window nothing is granted, yet 256 B move. -/
theorem C20_bytes_window_counterexample :
    let s : XSt := xrun { holding := [0, 0], granted := 0, moved := 0 } [.grant 0 128, .grant 1 128]
    ¬ ((xrun s [.move 0 128, .move 1 128]).moved - s.moved ≤ (xrun s [.move 0 128, .move 1 128]).granted - s.granted) := by
  decide

/-- **Bounded wait, any number of connections.** On a limited limiter (`L ≥ 1024` B/s, i.e. any positive limit) whose
lock holders really sleep at least 10 ticks (< `INTERVAL`) between polls: over ANY history of further requests and
wake-ups, a request that has `j` requests ahead of it (the lock holder included) has been granted its tokens after at
most `16·(j+1)` wake-ups — whoever arrives meanwhile, however the clock jumps. (`idx` identifies the request by its
position in the order of arrival; `idx - served` requests are ahead of it.) No waiter is starved, and the bound is
explicit: with the library's 10 ms sleeps, 0.16 s per request ahead at the lowest limit. -/
theorem C20_bounded_wait (idx : Nat) (ops : List LOp) (s : LockRun) (hi : LInv s)
    (hf : s.served ++ waitingList s.o = s.arrivals) (hpending : s.served.length ≤ idx) (hreq : idx < s.arrivals.length)
    (hd : Disciplined ops) (hw : 16 * (idx - s.served.length + 1) ≤ wakes ops) :
    idx < (lrun s ops).served.length := by
  apply bounded_wait_aux idx ops s hi hf hpending hreq hd
  have := rem_le s.o.lim
  omega

/-- the library's re-poll interval is at least the 10 ticks assumed above, and every positive
limit is at least the 1024 B/s assumed above (constants regenerated from the source). -/
theorem C20_constants : 10 * 1000 ≤ intervalMs * tps ∧ 1024 ≤ 1 * bytesPerKb ∧ minBucket ≤ bytesPerKb := by
  decide

/-! Non-vacuity: the hypotheses are met by reachable states. -/
example : ({ L := 2048, bucket := 100, last := 5 } : Lim).WF 7 := by unfold Lim.WF; decide
example : LimitsWithin 4096 [.poll 3, .setLimit 4, .poll 0, .setLimit 0, .poll 7, .setLimit 1] := by simp [LimitsWithin]; decide
example : (Limiter.limited { L := 2048, bucket := 100, last := 5 }).WF 7 4096 := by unfold Limiter.WF Lim.WF; decide
-- off and on again at one instant hands out nothing extra: 8 grants of 128 B = the 1024 tokens that were there
example : (run { lim := .limited { L := 1024, bucket := 1024, last := 100 }, now := 100, granted := 0 }
    ([.setLimit 0, .poll 0, .setLimit 1] ++ List.replicate 12 (.poll 0))).granted = 1024 := by decide
example : (polls { L := 1024, bucket := 0, last := 0 } 0 (List.replicate 16 10)).2.2 = 128 := by decide
example : (lrun { o := { lim := { L := 1024, bucket := 300, last := 0 }, holder := none, queue := [] }, now := 0,
                  arrivals := [], served := [] }
    [.arrive 7 0, .arrive 8 0, .arrive 9 0, .arrive 5 1, .wake 200, .wake 200]).served = [7, 8, 9, 5] := by decide
-- four connections, a limit change while two requests are pending, a period without a limit: 2 KiB/s at clock 2048
-- with an empty bucket and a stale clock -> the first refill fills the bucket (2048 B = 16 grants at most before it is empty)
example : (nrun { net := { olds := [], cur := .limited { lim := { L := 2048, bucket := 0, last := 0 }, holder := none, queue := [] },
                            now := 2048 }, granted := 0 }
    [.poll 0 0, .poll 1 0, .setLimit 1, .poll 2 0, .poll 0 11, .poll 3 0, .setLimit 0, .poll 3 5, .setLimit 2, .poll 1 11]).granted
      ≤ 2048 + 2048 := by decide
-- three requests at 1 KiB/s on an empty bucket, a limit change while two of them are pending, their hand-over:
-- an instance of the invariant computed by the kernel (requests made = granted + still pending)
def exGhost : NGhost :=
  { net := { olds := [], cur := .limited { lim := { L := 1024, bucket := 0, last := 100 }, holder := none, queue := [] }, now := 100 },
    arrivals := [], served := [] }
def exOps : List NOp := [.poll 0 0, .poll 1 0, .poll 2 0, .setLimit 2, .poll 3 200, .poll 0 11, .poll 1 11, .poll 2 300]
-- requests 0,1,2 are pending on the 1 KiB/s object when the limit becomes 2 KiB/s; 3 arrives at the new object and is served
-- first; when 0's sleep ends, 0,1,2 move on in this order; 1 asks again; in the end everybody has been served
example : (grun exGhost exOps).arrivals = [0, 1, 2, 3, 1] ∧ (grun exGhost exOps).served = [3, 0, 1, 2, 1] ∧
    pendingAll (grun exGhost exOps).net.olds (grun exGhost exOps).net.cur = [] := by decide
example : ({ net := { olds := [], cur := .unlimited 0 0, now := 0 }, arrivals := [], served := [] } : NGhost).Inv := by
  simp [NGhost.Inv, pendingAll, NObj.waiting]
example : NLimitsWithin 4096 [.poll 0 0, .setLimit 1, .poll 2 0, .setLimit 0, .setLimit 4] := by simp [NLimitsWithin]; decide
example : (xrun { holding := [0, 0, 0], granted := 0, moved := 0 }
    [.grant 0 128, .grant 2 8192, .move 2 100, .move 0 128, .grant 0 128]).moved = 228 := by decide
-- a reachable state meeting the hypotheses of `C20_bounded_wait`: poller 7 holds the lock on an empty bucket, 8 and 9 wait
example : LInv { o := { lim := { L := 1024, bucket := 3, last := 5 }, holder := some 7, queue := [8, 9] }, now := 5,
                 arrivals := [7, 8, 9], served := [] } := by
  refine ⟨by intro h; simp at h, by unfold Lim.WF; decide, by decide, by intro _; decide⟩
example : Disciplined [.wake 11, .arrive 4 0, .wake 10, .wake 500] := by simp [Disciplined]
example : 0 < (blockPolls { L := 1024, bucket := 0, last := 0 } 0 (List.replicate 26 (3, 2, 3, 2))).2.2 := by decide

end AioslskVerif.C20
