import AioslskVerif.Proofs.Transfer
import AioslskVerif.Proofs.TransferFault
/-!
# C03 — transfer state changes always follow the documented state graph

The table theorems are re-checked against what `transfer/state.py` says *now* (the table is
regenerated before every build). The concurrent theorems are about the lock/dispatch wrapper **as
fixed by fixes/C03-dispatch-on-current-state.patch** (`Mode.current`): the method that runs once the
caller owns the lock is the one of the transfer's current state. For the wrapper of the pinned
commit (`Mode.captured`) the statement is false: `C03_pinned_dispatch_counterexample`.
-/
namespace AioslskVerif.C03
open AioslskVerif.Transfer AioslskVerif.Generated.Transfer AioslskVerif.Spec.Transfer

/-- **Sequential part.** Whatever a state class does in an overridden method ends in a transition
along a documented edge — and to the state the method is named after. -/
theorem C03_table_sound (d : Dir) (s : St) (m : Meth) (s' : St) (e : List Eff)
    (h : implStep d s m = some (s', e)) : edge d s s' = true ∧ s' = target d m := by
  have hc := table_sweep (P := fun d s m => match implStep d s m with
    | some (t, _) => edge d s t && decide (t = target d m)
    | none => true) (by decide +kernel) d s m
  rw [h] at hc
  simpa using hc

/-- A request is accepted by a state class exactly when the documented graph has the edge from that
state to the request's target (the frozen graph is neither wider nor narrower than the code). -/
theorem C03_table_complete (d : Dir) (s : St) (m : Meth) :
    (implStep d s m).isSome = edge d s (target d m) :=
  eq_of_beq (table_sweep (P := fun d s m => (implStep d s m).isSome == edge d s (target d m))
    (by decide +kernel) d s m)

/-- the part of `C03_table_sound` the induction uses -/
theorem C03_table_edges : TableSound :=
  fun d s m t e h => (C03_table_sound d s m t e h).1

/-- **Refusal is pure.** When the state the wrapper dispatches on does not override the method, being
granted the lock changes nothing — not the state, no field (reasons, timestamps, local path, file,
tasks), no listener event, not the lock — except that `False` is returned to that caller. -/
theorem C03_refusal_pure (cfg : Cfg) (c : Call) (x : XState)
    (h : implStep cfg.dir (dispatchOn cfg x c) c.meth = none) :
    grant cfg c x = { x with trace := .ret c.id false :: x.trace } := by
  unfold grant
  rw [h]

/-- **Concurrent part, all op lists.** From any state, with any fields, for uploads and downloads,
whatever calls are created, started, overlap while a slow cancellation / file removal holds the
lock, and in whatever order the slow steps finish: every `(old, new)` pair a listener is given is
an edge of the documented graph. -/
theorem C03_concurrent (cfg : Cfg) (hm : cfg.mode = .current) (s : St) (f : Fields) (ops : List XOp) :
    ∀ p ∈ events (run cfg (init s f) ops), edge cfg.dir p.1 p.2 = true :=
  (run_init_inv cfg C03_table_edges hm s f ops).events_edges

/-- **The state changes themselves, all op lists.** The assignments `self.state = …` the transfer made,
read from the state the run started in, form one walk along documented edges that ends in the
current state: each is an edge, and each starts where the previous one ended. -/
theorem C03_transitions_walk (cfg : Cfg) (hm : cfg.mode = .current) (s : St) (f : Fields)
    (ops : List XOp) :
    follows s (transitions (run cfg (init s f) ops)) = some (run cfg (init s f) ops).cur ∧
    ∀ p ∈ transitions (run cfg (init s f) ops), edge cfg.dir p.1 p.2 = true :=
  (run_init_inv cfg C03_table_edges hm s f ops).transitions_walk

/-- **Listeners observe exactly the edges taken, in order — every listener, all op lists.** With any
number of registered listeners, any of which may suspend for as long as the environment likes, and
whatever requests arrive meanwhile: the sequence of `(old, new)` pairs given to listener number `li`
is the sequence of state changes of the transfer — except while the lock holder is suspended inside
an *earlier* listener (`p.pos < li`) of the newest change, when listener `li` has been given all but
that newest change `(p.old, current state)` (it is next in line). In particular, whenever the lock is
free all listeners have been given the same sequence. (`Transfer.transition` reads `self.state` again
for every listener — model.py:236; the pair is right because the lock is held until the last listener
has returned.)

The op lists include `cancelCaller`. The one thing that makes the statement false is a caller that is
cancelled while it is suspended inside a listener with other listeners still to come: those are then never
told that change (`XState.cuts` counts exactly these events; `C03_cut_listener_counterexample`). Hence the
hypothesis `cuts = 0` — which holds of every op list without `cancelCaller` (`C03_cuts_only_by_cancel`; that
instance is `C03_listeners_told_when_nobody_gives_up`) — and, with no hypothesis at all,
`C03_listener_told_subsequence` and `C03_first_listener_told_everything`. -/
theorem C03_listeners_told_the_transitions (cfg : Cfg) (hm : cfg.mode = .current) (s : St)
    (f : Fields) (ops : List XOp) (li : Nat) (hli : li < cfg.listeners.length)
    (hc : (run cfg (init s f) ops).cuts = 0) :
    (told li (run cfg (init s f) ops) = transitions (run cfg (init s f) ops) ∨
      ∃ p, (run cfg (init s f) ops).holder = some p ∧ p.notified = true ∧ p.pos < li ∧
        told li (run cfg (init s f) ops) ++ [(p.old, (run cfg (init s f) ops).cur)]
          = transitions (run cfg (init s f) ops)) ∧
    ((run cfg (init s f) ops).holder = none →
      told li (run cfg (init s f) ops) = transitions (run cfg (init s f) ops)) :=
  (run_init_inv cfg C03_table_edges hm s f ops).told_reliable ⟨hli, .inr hc⟩

/-- Only the cancellation of a caller can cut a listener loop short: an op list without `cancelCaller`
(any calls, overlaps, slow steps, reloads) has `cuts = 0`. -/
theorem C03_cuts_only_by_cancel (cfg : Cfg) (s : St) (f : Fields) (ops : List XOp)
    (h : ops.all (fun o => !o.isCancel) = true) : (run cfg (init s f) ops).cuts = 0 :=
  run_cuts_of_no_cancel cfg ops h (init s f)

/-- `C03_listeners_told_the_transitions` without its hypothesis `cuts = 0`, for every op list in which no caller
gives up (calls, created and started coroutines, manager and peer requests, overlaps, slow steps in any order,
reloads). -/
theorem C03_listeners_told_when_nobody_gives_up (cfg : Cfg) (hm : cfg.mode = .current) (s : St)
    (f : Fields) (ops : List XOp) (li : Nat) (hli : li < cfg.listeners.length)
    (h : ops.all (fun o => !o.isCancel) = true) :
    (told li (run cfg (init s f) ops) = transitions (run cfg (init s f) ops) ∨
      ∃ p, (run cfg (init s f) ops).holder = some p ∧ p.notified = true ∧ p.pos < li ∧
        told li (run cfg (init s f) ops) ++ [(p.old, (run cfg (init s f) ops).cur)]
          = transitions (run cfg (init s f) ops)) ∧
    ((run cfg (init s f) ops).holder = none →
      told li (run cfg (init s f) ops) = transitions (run cfg (init s f) ops)) :=
  C03_listeners_told_the_transitions cfg hm s f ops li hli (C03_cuts_only_by_cancel cfg s f ops h)

/-- **Every listener, all op lists, cancellations included, no hypothesis:** what listener `li` has been
given is a *subsequence* of the state changes the transfer made, in order — it is never told a change that
did not happen, never in another order, never twice; all it can lose is a change whose announcement was cut
short by the cancellation of the announcing caller. Since the state changes form a walk along documented
edges (`C03_transitions_walk`), what lies between two pairs a listener was given is again such a walk. -/
theorem C03_listener_told_subsequence (cfg : Cfg) (hm : cfg.mode = .current) (s : St) (f : Fields)
    (ops : List XOp) (li : Nat) :
    (told li (run cfg (init s f) ops)).Sublist (transitions (run cfg (init s f) ops)) :=
  (run_init_inv cfg C03_table_edges hm s f ops).told_sublist li

/-- …and the listener registered first — `TransferManager.add` puts the manager itself there
(manager.py:342) — is told every state change at the moment it is made, whatever is cancelled. -/
theorem C03_first_listener_told_everything (cfg : Cfg) (hm : cfg.mode = .current) (s : St) (f : Fields)
    (ops : List XOp) (h0 : 0 < cfg.listeners.length) :
    told 0 (run cfg (init s f) ops) = transitions (run cfg (init s f) ops) :=
  -- no listener is in line before the first
  ((run_init_inv cfg C03_table_edges hm s f ops).told_reliable ⟨h0, .inl rfl⟩).1.resolve_right
    fun ⟨_, _, _, hpos, _⟩ => Nat.not_lt_zero _ hpos

/-- …hence what any one listener is given is itself a walk from the state the run started in: each
pair starts where the previous one ended (and each is an edge, `C03_concurrent`), and when the lock
is free the walk ends in the current state. (`cuts = 0`: see `C03_listeners_told_the_transitions`.) -/
theorem C03_each_listener_walk (cfg : Cfg) (hm : cfg.mode = .current) (s : St) (f : Fields)
    (ops : List XOp) (li : Nat) (hli : li < cfg.listeners.length)
    (hc : (run cfg (init s f) ops).cuts = 0) :
    ∃ e, follows s (told li (run cfg (init s f) ops)) = some e ∧
      ((run cfg (init s f) ops).holder = none → e = (run cfg (init s f) ops).cur) :=
  (run_init_inv cfg C03_table_edges hm s f ops).told_walk ⟨hli, .inr hc⟩

/-- …and the transition the suspended lock holder is about to make is an edge from the state the
transfer is in *now* (the invariant that makes the induction go through). -/
theorem C03_pending_is_edge (cfg : Cfg) (hm : cfg.mode = .current) (s : St) (f : Fields)
    (ops : List XOp) (p : Pending) (h : (run cfg (init s f) ops).holder = some p)
    (hn : p.notified = false) :
    edge cfg.dir (run cfg (init s f) ops).cur p.target = true :=
  (run_init_inv cfg C03_table_edges hm s f ops).pending p h hn

/-- **Refused ⇒ no effect, all op lists.** The trace of who-did-what is a sequence of blocks, each
either a lone `ret id false`, or the effects of a single call followed by its one state change, the
listener events of that change and `ret id true`, or such a block cut short by `cancelled id` when the
caller of the lock holder was cancelled (`Shape`, `Proofs/Transfer.lean`; a `cancelled id` of a caller that
was still waiting for the lock belongs to no block); hence invocations never interleave under the lock — a
cancelled one included: nothing of it follows its `cancelled` — and a refused call has done nothing: what
precedes its `ret id false` in the trace is the return or the cancellation of another call (or the
beginning), never an effect or an event. (The trace is newest first: `rest` is what came before the refusal,
`pre` what came after it.) -/
theorem C03_refused_no_effect (cfg : Cfg) (hm : cfg.mode = .current) (s : St) (f : Fields)
    (ops : List XOp) :
    Shape (phaseOf (run cfg (init s f) ops).holder) (run cfg (init s f) ops).trace ∧
    ∀ pre id rest, (run cfg (init s f) ops).trace = pre ++ .ret id false :: rest →
      rest = [] ∨ (∃ id' ok rest', rest = .ret id' ok :: rest') ∨
        (∃ id' rest', rest = .cancelled id' :: rest') :=
  have hsh := (run_init_inv cfg C03_table_edges hm s f ops).shape
  ⟨hsh, hsh.refusal_isolated⟩

/-- **A request cancelled before it was served has no effect.** The caller of a request that still waits
for the lock is cancelled: the state, every field, the lock holder, what listeners were told and the state
changes are what they were; the request leaves the queue (if it was in it) and its caller is told. -/
theorem C03_cancelled_waiter_no_effect (cfg : Cfg) (x : XState) (id : Nat) (p : Pending)
    (hp : x.holder = some p) (hne : p.call.id ≠ id) :
    (step cfg x (.cancelCaller id)).cur = x.cur ∧ (step cfg x (.cancelCaller id)).f = x.f ∧
    (step cfg x (.cancelCaller id)).holder = x.holder ∧
    (step cfg x (.cancelCaller id)).cuts = x.cuts ∧
    ((step cfg x (.cancelCaller id)) = x ∨
      ∃ ws, removeWaiter id x.waiters = some ws ∧
        step cfg x (.cancelCaller id) = { x with waiters := ws, trace := .cancelled id :: x.trace }) := by
  rw [step_cancelCaller_waiter cfg hp hne]
  split
  · next ws hws => exact ⟨rfl, rfl, rfl, rfl, Or.inr ⟨ws, hws, rfl⟩⟩
  · exact ⟨rfl, rfl, rfl, rfl, Or.inl rfl⟩

/-- **What remains of a request whose caller is gone: nothing.** The caller of the suspended lock holder
is cancelled (`abandon`): the state is what it was, nobody is told anything, no state change is made, no
field changes except that the tasks the request had cancelled are now known to have ended; and either the
lock is released at once — the request is over, its block in the trace is closed by `cancelled`
(`C03_refused_no_effect`: nothing of it follows) — or (`Cfg.stubborn`: it waits for tasks that take their
time to end) it stays the lock holder, marked `abandoned`, so that nobody else is served meanwhile, and the
next `resume` ends it the same way (`tasksEnded`). The transfer is left where it was: a `DOWNLOADING`
transfer whose `abort()` was cancelled is `DOWNLOADING` with its tasks cancelled — no undocumented edge, and
the next request is served on that state. -/
theorem C03_cancelled_holder_does_nothing_more (cfg : Cfg) (p : Pending) (x : XState) :
    (abandon cfg p x).cur = x.cur ∧ events (abandon cfg p x) = events x ∧
    transitions (abandon cfg p x) = transitions x ∧ (abandon cfg p x).waiters = x.waiters ∧
    { (abandon cfg p x).f with tasksLive := x.f.tasksLive } = x.f ∧
    ((abandon cfg p x).holder = none ∨
      (cfg.stubborn = true ∧ (abandon cfg p x).holder = some { p with abandoned := true } ∧
        (abandon cfg p x).trace = x.trace ∧ (abandon cfg p x).f = x.f)) := by
  -- all the request leaves in the trace is `cancelled` (and the end of the tasks): neither an event nor a
  -- state change
  unfold abandon
  split
  · exact ⟨rfl, filterMap_reverse_congr rfl, filterMap_reverse_congr rfl, rfl, rfl, Or.inl rfl⟩
  · split
    · split
      · next hs => exact ⟨rfl, rfl, rfl, rfl, rfl, Or.inr ⟨hs, rfl, rfl, rfl⟩⟩
      · unfold tasksEnded
        exact ⟨rfl, filterMap_reverse_congr rfl, filterMap_reverse_congr rfl, rfl, rfl, Or.inl rfl⟩
    · exact ⟨rfl, filterMap_reverse_congr rfl, filterMap_reverse_congr rfl, rfl, rfl, Or.inl rfl⟩

/-- …and the abandoned lock holder, when its tasks have ended, ends likewise: state, listeners' records
and state changes untouched, lock released (then handed to the oldest waiter by `step`). -/
theorem C03_abandoned_holder_ends (p : Pending) (x : XState) :
    (tasksEnded p x).cur = x.cur ∧ events (tasksEnded p x) = events x ∧
    transitions (tasksEnded p x) = transitions x ∧ (tasksEnded p x).holder = none ∧
    { (tasksEnded p x).f with tasksLive := x.f.tasksLive } = x.f := by
  unfold tasksEnded
  exact ⟨rfl, filterMap_reverse_congr rfl, filterMap_reverse_congr rfl, rfl, rfl⟩

/-- **Repair on load tells nobody.** What `Transfer.__setstate__` and `TransferManager.read_cache` do to
a stored record happens before the first listener is registered: the loaded transfer starts with an empty
record — no listener has been told anything, no request is in flight, the lock is free. In particular the
`await transfer.state.queue()` that takes a stored `INITIALIZING` back to `QUEUED` runs on a transfer
without listeners and tells nobody (second part: no `event` item in what that call leaves behind, whatever
the table says `InitializingState.queue` does). -/
theorem C03_load_tells_nobody (cfg : Cfg) (stored : St) (f : Fields) (whole : Bool) :
    (load cfg stored f whole).trace = [] ∧ events (load cfg stored f whole) = [] ∧
    (∀ li, told li (load cfg stored f whole) = []) ∧ (load cfg stored f whole).holder = none ∧
    (load cfg stored f whole).waiters = [] ∧
    ∀ (f1 : Fields) id li a b, Item.event id li a b ∉
      (arrive { cfg with listeners := [] } { id := 0, meth := .queue, captured := .initializing }
        (init .initializing f1)).trace := by
  obtain ⟨s', f', h⟩ := load_is_init cfg stored f whole
  rw [h]
  exact ⟨rfl, rfl, fun _ => rfl, rfl, rfl,
    fun f1 => noListeners_arrive_init { cfg with listeners := [] } rfl _ _ f1⟩

/-- the state a loaded transfer is first seen in: a record stored while transferring is `COMPLETE` when
all bytes are there and `INCOMPLETE` otherwise (assigned, not announced), everything that was neither
transferring nor initializing is what was stored -/
theorem C03_load_state (cfg : Cfg) (stored : St) (f : Fields) (whole : Bool) :
    (stored = .downloading ∨ stored = .uploading →
      (load cfg stored f whole).cur = if whole then .complete else .incomplete) ∧
    (stored ≠ .downloading → stored ≠ .uploading → stored ≠ .initializing →
      (load cfg stored f whole).cur = stored) := by
  refine ⟨?_, ?_⟩
  · rintro (h | h) <;> subst h <;> rfl
  · intro h1 h2 h3
    cases stored <;> first | rfl | contradiction

/-- **…and from there on everything above holds**: whatever was stored, for all op lists on the loaded
transfer every pair a listener is given is a documented edge, and the state changes form one walk along
documented edges from the state the transfer was in when `TransferAddedEvent` was emitted. -/
theorem C03_after_load (cfg : Cfg) (hm : cfg.mode = .current) (stored : St) (f : Fields) (whole : Bool)
    (ops : List XOp) :
    (∀ p ∈ events (run cfg (load cfg stored f whole) ops), edge cfg.dir p.1 p.2 = true) ∧
    follows (load cfg stored f whole).cur (transitions (run cfg (load cfg stored f whole) ops))
      = some (run cfg (load cfg stored f whole) ops).cur ∧
    ∀ li, (told li (run cfg (load cfg stored f whole) ops)).Sublist
      (transitions (run cfg (load cfg stored f whole) ops)) := by
  obtain ⟨s', f', h⟩ := load_is_init cfg stored f whole
  rw [h]
  exact ⟨C03_concurrent cfg hm s' f' ops, (C03_transitions_walk cfg hm s' f' ops).1,
    fun li => C03_listener_told_subsequence cfg hm s' f' ops li⟩

/-- reading the cache again while the manager already holds the transfer (stop / start of a client)
leaves the live transfer alone: the repaired copy is dropped by `TransferManager.add` -/
theorem C03_reload_no_effect (cfg : Cfg) (x : XState) : step cfg x .reload = x := rfl

/-- The places **outside the state classes** where a transfer's state is written, read off the source
on every run (`Generated.outsideSites`: per file, direct assignments to a `.state` attribute and calls of
`.transition(`; `transfer/state.py` itself excluded): the constructor and `Transfer.transition` in
`transfer/model.py`, and the one repair assignment of `read_cache` — which `load` transcribes. A new site
is a state change this model does not know of. -/
theorem C03_outside_sites_pinned :
    outsideSites = [("transfer/manager.py", "assign", 1), ("transfer/model.py", "assign", 2)] :=
  rfl

/-- The wrapper of the pinned commit runs the method of the state object the caller looked up
*before* waiting for the lock. `DOWNLOADING`, a slow task cancellation, `abort` then `pause` while
abort holds the lock: listeners see `ABORTED → PAUSED`, which is not a documented edge. (Confirmed
on the real code; repaired by fixes/C03-dispatch-on-current-state.patch.) -/
theorem C03_pinned_dispatch_counterexample :
    let cfg : Cfg := { dir := .download, slowCancel := true, slowFs := false, mode := .captured }
    let x := run cfg (init .downloading { tasksLive := true, startTime := some 0 })
      [.call { id := 0, meth := .abort, reason := some 0 }, .call { id := 1, meth := .pause }, .resume]
    (St.aborted, St.paused) ∈ events x ∧ edge .download .aborted .paused = false := by
  decide +kernel

/-- two overlapping calls: abort is suspended in the slow cancellation, pause waits for the lock -/
example :
    let cfg : Cfg := { dir := .download, slowCancel := true, slowFs := false }
    let x := run cfg (init .downloading { tasksLive := true, startTime := some 0 })
      [.call { id := 0, meth := .abort, reason := some 0 }, .call { id := 1, meth := .pause }]
    x.cur = .downloading ∧ (x.holder.map (·.call.id)) = some 0 ∧ x.waiters.length = 1 := by decide +kernel

/-- …then the cancellation finishes: abort completes, the waiter is dispatched on `ABORTED` and
refused; the transfer is aborted, one event, returns `true` then `false`. -/
example :
    let cfg : Cfg := { dir := .download, slowCancel := true, slowFs := false }
    let x := run cfg (init .downloading { tasksLive := true, startTime := some 0 })
      [.call { id := 0, meth := .abort, reason := some 0 }, .call { id := 1, meth := .pause }, .resume]
    x.cur = .aborted ∧ events x = [(.downloading, .aborted)] ∧ x.holder = none ∧ x.waiters = [] ∧
      x.trace.head? = some (.ret 1 false) := by decide +kernel

/-- a suspended *listener* holds the lock after the state is already assigned. `FAILED`, two `queue()`
coroutines created first and scheduled together (as manager.py:614-627 does with `gather`): the second
is dispatched on `QUEUED` and refused — the pinned wrapper made `QUEUED → QUEUED` of it. -/
example :
    let cfg : Cfg := { dir := .upload, slowCancel := false, slowFs := false, listeners := [true] }
    let ops : List XOp := [.create { id := 0, meth := .queue }, .create { id := 1, meth := .queue },
                           .start 0, .start 1]
    let x := run cfg (init .failed { failReason := some 2 }) ops
    x.cur = .queued ∧ (x.holder.map (·.notified)) = some true ∧ x.waiters.length = 1 ∧
      events (run cfg x [.resume, .resume]) = [(.failed, .queued)] ∧
      events (run { cfg with mode := .captured } (init .failed { failReason := some 2 }) (ops ++ [.resume, .resume]))
        = [(.failed, .queued), (.queued, .queued)] := by decide +kernel

/-- three listeners (the manager's own, a journal that suspends, a monitor): `DOWNLOADING`, `abort` with
`queue` arriving while abort waits for the cancelled tasks. While abort is suspended in the journal the
monitor has not yet been told `DOWNLOADING → ABORTED` and `queue` still waits; once the journal has
returned twice all three have been told `DOWNLOADING → ABORTED, ABORTED → QUEUED` — never
`DOWNLOADING → QUEUED`. -/
example :
    let cfg : Cfg := { dir := .download, slowCancel := true, slowFs := false, listeners := [false, true, false] }
    let ops : List XOp := [.call { id := 0, meth := .abort, reason := some 1 }, .call { id := 1, meth := .queue },
                           .resume]
    let x := run cfg (init .downloading { tasksLive := true, startTime := some 0 }) ops
    x.cur = .aborted ∧ (x.holder.map (·.pos)) = some 1 ∧ x.waiters.length = 1 ∧
      told 0 x = [(.downloading, .aborted)] ∧ told 1 x = [(.downloading, .aborted)] ∧ told 2 x = [] ∧
      (let y := run cfg x [.resume, .resume]
       y.cur = .queued ∧ y.holder = none ∧ transitions y = [(.downloading, .aborted), (.aborted, .queued)] ∧
       told 0 y = transitions y ∧ told 1 y = transitions y ∧ told 2 y = transitions y ∧
       follows .downloading (told 2 y) = some .queued) := by decide +kernel

/-- the caller of `abort()` gives up (time-out) while abort waits for the tasks it cancelled: the request
is over, the download is still `DOWNLOADING` (tasks gone), nobody was told anything; the peer's
queue-failed message then fails it along a documented edge, and nothing else ever happens. -/
example :
    let cfg : Cfg := { dir := .download, slowCancel := true, slowFs := false, listeners := [false, false] }
    let x := run cfg (init .downloading { tasksLive := true, startTime := some 0, localPath := true, fileExists := true })
      [.call { id := 0, meth := .abort, reason := some 1 }, .cancelCaller 0]
    x.cur = .downloading ∧ x.holder = none ∧ events x = [] ∧ x.f.tasksLive = false ∧ x.f.fileExists = true ∧
      x.trace.head? = some (.cancelled 0) ∧
      (let y := run cfg x [.call { id := 1, meth := .fail, reason := some 2 }, .resume, .resume]
       y.cur = .failed ∧ transitions y = [(.downloading, .failed)] ∧ y.f.fileExists = true ∧
       y.f.abortReason = none) := by decide +kernel

/-- the same with tasks that take their time to end whatever is cancelled again: the cancelled abort keeps
the lock (`abandoned`), the peer's message waits, and is served — on `DOWNLOADING` — once the tasks have ended -/
example :
    let cfg : Cfg := { dir := .download, slowCancel := true, slowFs := false, stubborn := true }
    let x := run cfg (init .downloading { tasksLive := true, startTime := some 0 })
      [.call { id := 0, meth := .abort, reason := some 1 }, .cancelCaller 0,
       .call { id := 1, meth := .fail, reason := some 2 }]
    x.cur = .downloading ∧ (x.holder.map (·.abandoned)) = some true ∧ x.waiters.length = 1 ∧
      (let y := run cfg x [.resume]
       y.cur = .failed ∧ y.holder = none ∧ events y = [(.downloading, .failed)]) := by decide +kernel

/-- a caller still waiting for the lock is cancelled: it never runs -/
example :
    let cfg : Cfg := { dir := .download, slowCancel := true, slowFs := false }
    let x := run cfg (init .downloading { tasksLive := true, startTime := some 0 })
      [.call { id := 0, meth := .pause }, .call { id := 1, meth := .abort, reason := some 1 },
       .cancelCaller 1, .resume]
    x.cur = .paused ∧ x.holder = none ∧ x.waiters = [] ∧ events x = [(.downloading, .paused)] ∧
      x.f.abortReason = none := by decide +kernel

/-- The hypothesis `cuts = 0` of `C03_listeners_told_the_transitions` is needed: a caller cancelled while it
is suspended inside the *second* of three listeners leaves the third without that change — on the real
code as in the model (the loop of `Transfer.transition` is simply left). The third listener's record is
still a subsequence of the state changes (`C03_listener_told_subsequence`), the first one's is complete. -/
theorem C03_cut_listener_counterexample :
    let cfg : Cfg := { dir := .download, slowCancel := false, slowFs := false, listeners := [false, true, false] }
    let x := run cfg (init .downloading { startTime := some 0 })
      [.call { id := 0, meth := .pause }, .cancelCaller 0, .call { id := 1, meth := .queue }, .resume]
    x.cuts = 1 ∧ x.holder = none ∧
      transitions x = [(.downloading, .paused), (.paused, .queued)] ∧ told 0 x = transitions x ∧
      told 1 x = transitions x ∧ told 2 x = [(.paused, .queued)] := by decide +kernel

/-- a record stored as `UPLOADING` with bytes missing is first seen as `INCOMPLETE`, one stored as
`INITIALIZING` as `QUEUED`, an `ABORTED` one of an older release gets its reason — and nobody is told -/
example :
    let cfg : Cfg := { dir := .upload, slowCancel := false, slowFs := false, listeners := [false, true] }
    (load cfg .uploading { startTime := some 0, bytes := 10, filesizeSet := true, tasksLive := true } false).cur = .incomplete ∧
    (load cfg .uploading { startTime := some 0 } false).f.startTime = none ∧
    (load cfg .initializing { remotelyQueued := true } false).cur = .queued ∧
    (load cfg .aborted {} false).f.abortReason = some requestedReason ∧
    events (load cfg .uploading {} true) = [] := by decide +kernel

/-- **A removal the file system refuses is not a refusal of the request** (state.py:32-46). Whatever the file
system answers, `_remove_local_file` of a download that has a `local_path` forgets the path and touches nothing
else; the file is still there afterwards exactly when it was there and the file system refused (`OSError`, caught
and logged). No field the state methods go on to read — and nothing that decides whether the method suspends or
what it returns — depends on the answer. -/
theorem C03_failed_removal_only_keeps_the_file (cfg : Cfg) (c : Call) (now : Nat) (f : Fields)
    (hd : cfg.dir = .download) (hp : f.localPath = true) :
    applyEff cfg c now f .removeLocalFile
      = { f with localPath := false, fileExists := f.fileExists && f.fsBroken } := by
  simp only [applyEff, hd, hp, if_true]

/-- the fault is a fact about the world: no effect statement other than the removal looks at it, none changes it,
and what an effect statement does to the other fields does not depend on it -/
theorem C03_fs_fault_touches_only_the_file (cfg : Cfg) (c : Call) (now : Nat) (f : Fields) (b : Bool) (e : Eff) :
    applyEff cfg c now { f with fsBroken := b } e
      = { applyEff cfg c now f e with
            fsBroken := b,
            fileExists := (applyEff cfg c now { f with fsBroken := b } e).fileExists } ∧
    blocks cfg { f with fsBroken := b } e = blocks cfg f e := by
  refine ⟨?_, by cases e <;> rfl⟩
  -- only two statements branch on a field, and neither on the fault
  cases e with
  | removeLocalFile =>
    unfold applyEff
    cases cfg.dir with
    | upload => rfl
    | download => dsimp only; split <;> rfl
  | setCompleteTime => unfold applyEff; dsimp only; split <;> rfl
  | _ => rfl

/-- **File-system faults change only what becomes of the file — all op lists.** Take any history and the same
history with the faults of the file system (`fsFault`) left out: the state, the whole trace — every effect carried
out, every state change, everything every listener is told, and every answer (`True` / `False` /
`InvalidStateTransition` / `CancelledError`) —, the lock holder and where it is suspended, the waiters and every
`Transfer` attribute are the same; only whether the file is still on disk may differ. In particular a request is
answered `False` with the faults exactly when it is without them: a removal the file system refuses never turns a
request that has already cancelled tasks or set a timestamp into a refused one. -/
theorem C03_fs_faults_change_only_the_file (cfg : Cfg) (s : St) (f : Fields) (ops : List XOp) :
    let x := run cfg (init s f) ops
    let y := run cfg (init s f) (ops.filter (fun o => !o.isFault))
    x.cur = y.cur ∧ x.trace = y.trace ∧ x.holder = y.holder ∧ x.waiters = y.waiters ∧ x.created = y.created ∧
      x.cuts = y.cuts ∧ x.now = y.now ∧
      ({ x.f with fsBroken := false, fileExists := false } : Fields) = { y.f with fsBroken := false, fileExists := false } :=
  calm_inj (run_calm_filter cfg ops rfl)

/-- the file system refuses the removal while `abort()` of a DOWNLOADING transfer is suspended in front of it
(tasks already cancelled, `complete_time` already set): the abort is carried out all the same — `ABORTED`, reason
set, every listener told `DOWNLOADING → ABORTED`, `True` returned — the path is forgotten and the file stays. The
request is never answered `False` after it has had effects (`C03_refused_no_effect` holds over op lists with
`fsFault` in them). -/
example :
    let cfg : Cfg := { dir := .download, slowCancel := false, slowFs := true, listeners := [false, false] }
    let x := run cfg (init .downloading { tasksLive := true, startTime := some 0, localPath := true, fileExists := true })
      [.call { id := 0, meth := .abort, reason := some 1 }, .fsFault true]
    x.cur = .downloading ∧ (x.holder.map (·.rest.head?)) = some (some .removeLocalFile) ∧ x.f.tasksLive = false ∧
      (let y := run cfg x [.resume]
       y.cur = .aborted ∧ y.holder = none ∧ y.trace.head? = some (.ret 0 true) ∧
       events y = [(.downloading, .aborted), (.downloading, .aborted)] ∧
       y.f.localPath = false ∧ y.f.fileExists = true ∧ y.f.abortReason = some 1 ∧
       -- the same without the fault: the only difference is the file
       (let z := run cfg (init .downloading { tasksLive := true, startTime := some 0, localPath := true, fileExists := true })
          [.call { id := 0, meth := .abort, reason := some 1 }, .resume]
        z.cur = y.cur ∧ z.trace = y.trace ∧ z.f.fileExists = false ∧ z.f.localPath = false)) := by decide +kernel

/-- the graph and the table are not trivial: 32 documented pairs, 31 overridden methods -/
example : edgeCount = 32 ∧ overriddenCount = 31 := by decide +kernel
example : edge .download .aborted .queued = true ∧ edge .download .aborted .paused = false ∧
    edge .upload .complete .failed = false ∧ edge .upload .initializing .downloading = false := by decide +kernel

end AioslskVerif.C03
