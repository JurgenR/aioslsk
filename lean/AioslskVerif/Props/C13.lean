import AioslskVerif.Proofs.DistAnnounced
/-!
# C13 — distributed tree: one parent, bounded live children, truthful advertised place

Model: the handlers of `DistributedNetwork` (`Model/Dist.lean`, atomic) under the small-step layer `Model/DistSusp.lean`;
what the property reads: `Spec/DistTree.lean`, `Spec/DistLimits.lean`, `Spec/DistAnnounced.lean`.

Every theorem quantifies over **all** op lists of the small-step layer (`xrun ops`, `ops : List XOp`): any number of
peers / connections, any values, the server socket blocked and released at any moment (`srvBlock` / `srvRelease`)
with any events handled meanwhile, any child socket dead (`arm`) or blocked. `C13_atomic_model_refined` shows that the
atomic histories (`run`, also the tree model of C14) are the special case without such ops.

Reading (DESIGN.md, C13). `derived` = (parent.level + 1, parent.root, search off) when there is a parent,
(0, own name, search on) otherwise. Truthfulness is demanded while a session exists (the own name is the
session's user) and not for the degenerate announcement "parent's root = own name". The server has been told the
derived position **at all times**; the children have been told it whenever no handler is suspended on its way to
them (`pend = []`: the code tells the server first and awaits that send), in particular after every release.
"Parent not among the children" is read on users: no child has the parent's user name (hence also not the parent's
connection). A child admission is judged against the limits that follow from the statistics **handled** last
(`Spec/DistLimits.lean`): a new limit binds in the step that handles the statistics.
-/
namespace AioslskVerif.C13
open AioslskVerif.Dist

/-- **At most one parent**: `parent` is a single optional reference, the peer it refers to is registered
exactly once (no duplicate `DistributedPeer` records), and it has announced both level and root. -/
theorem C13_one_parent (ops : List XOp) :
    (∀ c c', (xrun ops).d.parent = some c → (xrun ops).d.parent = some c' → c = c') ∧
    (xrun ops).d.live.Nodup ∧
    (∀ c, (xrun ops).d.parent = some c → ((xrun ops).d.level c).isSome ∧ ((xrun ops).d.root c).isSome) := by
  refine ⟨?_, (xrun_xinv ops).binv.str.liveNodup, (xrun_xinv ops).binv.str.parentComplete⟩
  intro c c' h h'
  rw [h] at h'
  exact Option.some.inj h'

/-- **The parent is not among the children** — neither its connection nor any connection of the same user. -/
theorem C13_parent_not_child (ops : List XOp) (c : ConnId) (h : (xrun ops).d.parent = some c) :
    c ∉ (xrun ops).d.children ∧ ∀ d ∈ (xrun ops).d.children, (xrun ops).d.name d ≠ (xrun ops).d.name c := by
  have hp := (xrun_xinv ops).binv.str.pnc c h
  exact ⟨fun hm => hp c hm rfl, hp⟩

/-- **Parent and children are live distributed connections**: registered in `distributed_peers` and their `CLOSED`
event has not been seen (also not by a handler that is still suspended); no connection is listed twice as a child. -/
theorem C13_live (ops : List XOp) :
    (∀ c, (xrun ops).d.parent = some c → (xrun ops).alive c) ∧
    (∀ d ∈ (xrun ops).d.children, (xrun ops).alive d) ∧ (xrun ops).d.children.Nodup := by
  have hb := (xrun_xinv ops).binv
  refine ⟨?_, ?_, hb.str.childNodup⟩
  · intro c hc; exact ⟨hb.str.parentLive c hc, fun hm => hb.closingNP c hm hc⟩
  · intro d hd; exact ⟨hb.str.childLive d hd, fun hm => hb.closingNC d hm hd⟩

/-- "live" means what it says: once the `CLOSED` event of a connection has been handed over the connection is
not live any more (so by `C13_live` it is neither parent nor child) — also while its handler is suspended. -/
theorem C13_live_closed (ops : List XOp) (c : ConnId) : ¬ (xrun (ops ++ [.base (.closed c)])).alive c := by
  rw [xrun_snoc]
  exact closed_not_alive (xrun ops) c (xrun_xinv ops).binv.str

/-- **Child admission.** A connection joins the children only in the step that created it as an incoming
(not requested) distributed connection, and only if in the state before that step child acceptance was on and
the number of children was below the current maximum — whatever sends are suspended at that moment. -/
theorem C13_child_admission (ops : List XOp) (op : XOp) (d : ConnId)
    (h : d ∈ (xrun (ops ++ [op])).d.children) (hn : d ∉ (xrun ops).d.children) :
    ∃ n, op = .base (.initialized n false) ∧ d = (xrun ops).d.nextConn ∧
      (xrun ops).d.accept = true ∧ (xrun ops).d.children.length < (xrun ops).d.maxChildren := by
  rw [xrun_snoc] at h
  obtain ⟨n, hop, hconn, haccept, hroom, -, -⟩ := xstep_children (xrun ops) op d (xrun_xinv ops).binv.str h hn
  exact ⟨n, hop, hconn, haccept, hroom⟩

/-- **A new limit binds in the step that handles the statistics.** After every history — with the `AcceptChildren`
send (or any other send to the server) suspended or not — `_accept_children` / `_max_children` are the limits that
follow from the own-user statistics handled so far (`Spec/DistLimits.lean`); no other step, in particular no
resumption of a suspended handler, assigns them. -/
theorem C13_limits_bind_at_stats (ops : List XOp) :
    (xrun ops).d.accept = (limits ops).accept ∧ (xrun ops).d.maxChildren = (limits ops).max := by
  have h := lim_xrun ops
  exact ⟨congrArg Lim.accept h, congrArg Lim.max h⟩

/-- **The maximum is the documented one, over the whole wire domain** (docs/source/SOULSEEK.rst, "Max children":
`divider = (ratio / 10) * 1024`, `max = floor(avg_speed / divider)`, read over the rationals). For every speed and every
non-zero ratio — any natural numbers, not only the values the real server sends — `k` children are within the maximum
exactly when `k * divider ≤ speed`, i.e. `k * (ratio * 1024) ≤ speed * 10`. The literals are those of the document;
the model's come from the code (`Generated/DistConstants.lean`). -/
theorem C13_max_children_documented (speed ratio : Nat) (hr : 0 < ratio) (k : Nat) :
    k ≤ maxChildrenOf speed ratio ↔ k * (ratio * 1024) ≤ speed * 10 := by
  -- the code's literals are the document's up to a common factor (they are the document's: the factor is 1)
  obtain ⟨g, hg, h10, h1024⟩ : ∃ g, 0 < g ∧ Generated.Dist.ratioDiv * g = 10 ∧
      Generated.Dist.speedUnit * g = 1024 := ⟨1024 / Generated.Dist.speedUnit, by decide, by decide, by decide⟩
  have hu : 0 < Generated.Dist.speedUnit := by decide
  unfold maxChildrenOf
  rw [Nat.le_div_iff_mul_le (Nat.mul_pos hr hu), ← h10, ← h1024]
  have e1 : k * (ratio * (Generated.Dist.speedUnit * g)) = k * (ratio * Generated.Dist.speedUnit) * g := by
    simp only [Nat.mul_assoc]
  have e2 : speed * (Generated.Dist.ratioDiv * g) = speed * Generated.Dist.ratioDiv * g := by
    simp only [Nat.mul_assoc]
  rw [e1, e2]
  exact (Nat.mul_le_mul_right_iff hg).symm

/-- … hence the maximum is *the* floor: the one number `m` with `m * divider ≤ speed < (m + 1) * divider`. -/
theorem C13_max_children_is_floor (speed ratio : Nat) (hr : 0 < ratio) (m : Nat) :
    maxChildrenOf speed ratio = m ↔ m * (ratio * 1024) ≤ speed * 10 ∧ speed * 10 < (m + 1) * (ratio * 1024) := by
  rw [← C13_max_children_documented speed ratio hr m, ← Nat.not_le,
    ← C13_max_children_documented speed ratio hr (m + 1)]
  omega

/-- **The limits in force are the documented ones after every history.** When the statistics of the logged-in user
are handled — after any history, with any `ParentMinSpeed` / `ParentSpeedRatio` received on this server connection
(the defaults otherwise), sends suspended or not — child acceptance is on exactly when the speed reaches
`min_speed * 1024`, the maximum is 0 when it is off, and when it is on (non-zero ratio) `k` children are within the
maximum exactly when `k * (ratio * 1024) ≤ speed * 10`. -/
theorem C13_limit_is_documented (ops : List XOp) (n : Name) (speed : Nat)
    (hs : (xrun ops).d.session = some n) :
    let ms := ((xrun ops).d.minSpeed).getD Generated.Dist.defaultMinSpeed
    let r := ((xrun ops).d.ratio).getD Generated.Dist.defaultSpeedRatio
    let after := (xrun (ops ++ [.base (.userStats n speed)])).d
    (after.accept = true ↔ ms * 1024 ≤ speed) ∧
    (after.accept = false → after.maxChildren = 0) ∧
    (after.accept = true → 0 < r → ∀ k, k ≤ after.maxChildren ↔ k * (r * 1024) ≤ speed * 10) := by
  intro ms r after
  have ha : after = onUserStats (xrun ops).d n speed := congrArg XState.d (xrun_snoc ops _)
  rw [ha]
  unfold onUserStats
  rw [if_pos hs]
  dsimp only
  by_cases h1 : speed < ms * Generated.Dist.minSpeedUnit
  · rw [if_pos h1]
    exact ⟨⟨fun h => Bool.noConfusion h, fun h => absurd h1 (Nat.not_lt.2 h)⟩, fun _ => rfl,
      fun h => Bool.noConfusion h⟩
  · rw [if_neg h1]
    by_cases h2 : r = 0
    · rw [if_pos h2]
      exact ⟨⟨fun _ => Nat.not_lt.1 h1, fun _ => rfl⟩, fun h => Bool.noConfusion h,
        fun _ h0 => absurd h2 (Nat.pos_iff_ne_zero.1 h0)⟩
    · rw [if_neg h2]
      exact ⟨⟨fun _ => Nat.not_lt.1 h1, fun _ => rfl⟩, fun h => Bool.noConfusion h,
        fun _ h0 k => C13_max_children_documented speed r h0 k⟩

/-- **Admission against the statistics handled last**: every admission happens while the limits machine says that
acceptance is on and that the number of children is below the maximum. -/
theorem C13_admission_by_last_stats (ops : List XOp) (op : XOp) (d : ConnId)
    (h : d ∈ (xrun (ops ++ [op])).d.children) (hn : d ∉ (xrun ops).d.children) :
    (limits ops).accept = true ∧ (xrun ops).d.children.length < (limits ops).max := by
  obtain ⟨_, _, _, h3, h4⟩ := C13_child_admission ops op d h hn
  obtain ⟨e1, e2⟩ := C13_limits_bind_at_stats ops
  exact ⟨e1 ▸ h3, e2 ▸ h4⟩

/-- **A proposed potential parent is not taken as child**: the user of a newly admitted child is not in the
potential-parent cache, and is not the current parent's user. -/
theorem C13_candidate_not_child (ops : List XOp) (op : XOp) (d : ConnId)
    (h : d ∈ (xrun (ops ++ [op])).d.children) (hn : d ∉ (xrun ops).d.children) :
    ∃ n, op = .base (.initialized n false) ∧ n ∉ (xrun ops).d.potential ∧ (xrun ops).d.parentName ≠ some n := by
  rw [xrun_snoc] at h
  obtain ⟨n, hop, -, -, -, hpotential, hparent⟩ := xstep_children (xrun ops) op d (xrun_xinv ops).binv.str h hn
  exact ⟨n, hop, hpotential, hparent⟩

/-- the cache keeps the most recent proposals: after `PotentialParents ns` the last `cacheSize` names of
`ns` are in the cache (all of `ns` when `ns.length ≤ cacheSize`). -/
theorem C13_cache_keeps_latest (ops : List XOp) (ns : List Name) (n : Name)
    (h : n ∈ ns.drop (ns.length - Generated.Dist.cacheSize)) :
    n ∈ (xrun (ops ++ [.base (.potentialParents ns)])).d.potential := by
  rw [xrun_snoc]
  show n ∈ extendCache (xrun ops).d.potential ns
  unfold extendCache
  rw [List.drop_append, List.length_append, Nat.sub_right_comm, Nat.add_sub_cancel_left]
  exact List.mem_append_right _ h

/-- **Truthful to the server, at all times.** While logged in, the last `BranchLevel / BranchRoot /
ToggleParentSearch` written on the current server connection are the position derived from the current parent — after
every history, including re-announcements by the parent, loss of the parent, session loss / re-login, and also while
handlers are suspended in their sends to the server (the frames are written before the handler waits). -/
theorem C13_truthful_server (ops : List XOp) (me : Name) (hs : (xrun ops).d.session = some me)
    (hd : ¬ Degenerate (xrun ops).d me) :
    ∃ a search, (xrun ops).d.toldServer = some (a, search) ∧ Derived (xrun ops).d me a search :=
  ⟨_, _, (xrun_xinv ops).toldS me hs, (xrun_xinv ops).binv.str.derived me hd⟩

/-- **Truthful to every child.** While logged in and with no handler suspended on its way to the children, the last
`DistributedBranchLevel` written to every current child is the derived level, and the last `DistributedBranchRoot` the
derived root (for level 0 the root may never have been written to a newly added child, as the protocol allows) —
whichever child sockets were dead or blocked when the position changed. -/
theorem C13_truthful_children (ops : List XOp) (me : Name) (hs : (xrun ops).d.session = some me)
    (hd : ¬ Degenerate (xrun ops).d me) (hq : (xrun ops).pend = []) (d : ConnId)
    (hc : d ∈ (xrun ops).d.children) :
    ∃ a search, Derived (xrun ops).d me a search ∧
      (xrun ops).d.toldL d = some a.level ∧
      ((xrun ops).d.toldR d = some a.root ∨ ((xrun ops).d.toldR d = none ∧ a.level = 0)) :=
  ⟨_, _, (xrun_xinv ops).binv.str.derived me hd,
   (xinv_settled _ (xrun_xinv ops) hq).told.toldC me hs d hc⟩

/-- **The position kept for a live connection is the position it announced** — by the protocol's own rule
(`Spec/DistAnnounced.lean`: a level sets the level, level 0 makes the peer its own root whatever root it announced
before, a root sets the root; a fold over the events alone, independent of the handlers). After every history, for
every registered connection whose `CLOSED` event has not been seen — in particular the parent and every candidate. -/
theorem C13_position_is_announced (ops : List XOp) (c : ConnId) (h : (xrun ops).alive c) :
    (xrun ops).d.level c = (announced ops).level c ∧ (xrun ops).d.root c = (announced ops).root c ∧
    (xrun ops).d.name c = (announced ops).name c := (agree_xrun ops).2 c h

/-- **Level 0 means "I am the root of my branch"**: when a live connection announces level 0 — after any history,
whatever root it announced before, with no root message behind it — its position is `(0, its own user)`. -/
theorem C13_level_zero_is_own_root (ops : List XOp) (c : ConnId)
    (h : (xrun (ops ++ [.base (.level c 0)])).alive c) :
    (xrun (ops ++ [.base (.level c 0)])).d.level c = some 0 ∧
    (xrun (ops ++ [.base (.level c 0)])).d.root c = some ((xrun (ops ++ [.base (.level c 0)])).d.name c) := by
  obtain ⟨h1, h2, h3⟩ := C13_position_is_announced _ c h
  have e : announced (ops ++ [.base (.level c 0)]) = annStep (announced ops) (.base (.level c 0)) := by
    simp [announced, List.foldl_append]
  rw [h1, h2, h3, e]
  show upd (announced ops).level c (some 0) c = some 0 ∧
    (if 0 = 0 then upd (announced ops).root c (some ((announced ops).name c)) else (announced ops).root) c =
      some ((announced ops).name c)
  rw [if_pos rfl]
  exact ⟨upd_self _ _ _, upd_self _ _ _⟩

/-- the degenerate announcement, read on the books or on the announcements: the same thing -/
theorem C13_degenerate_iff (ops : List XOp) (me : Name) :
    Degenerate (xrun ops).d me ↔ DegenerateAnn (xrun ops).d (announced ops) me := by
  constructor
  · intro ⟨c, hp, hr⟩
    exact ⟨c, hp, (C13_position_is_announced ops c ((C13_live ops).1 c hp)).2.1 ▸ hr⟩
  · intro ⟨c, hp, hr⟩
    exact ⟨c, hp, (C13_position_is_announced ops c ((C13_live ops).1 c hp)).2.1.symm ▸ hr⟩

/-- **Truthful to the server about what the parent ANNOUNCED.** `C13_truthful_server` with "the parent's level and
root" read off the parent's announcements by the protocol rule instead of the handlers' own notes: a parent that
announced `(2, r)` and later only level 0 leaves the server told `(1, the parent's user)`. -/
theorem C13_truthful_server_announced (ops : List XOp) (me : Name) (hs : (xrun ops).d.session = some me)
    (hd : ¬ DegenerateAnn (xrun ops).d (announced ops) me) :
    ∃ a search, (xrun ops).d.toldServer = some (a, search) ∧
      DerivedAnn (xrun ops).d (announced ops) me a search := by
  obtain ⟨a, s, ht, hder⟩ := C13_truthful_server ops me hs (fun h => hd ((C13_degenerate_iff ops me).1 h))
  exact ⟨a, s, ht, derived_announced ops me a s hder⟩

/-- **Truthful to every child about what the parent ANNOUNCED** (as `C13_truthful_children`). -/
theorem C13_truthful_children_announced (ops : List XOp) (me : Name) (hs : (xrun ops).d.session = some me)
    (hd : ¬ DegenerateAnn (xrun ops).d (announced ops) me) (hq : (xrun ops).pend = []) (d : ConnId)
    (hc : d ∈ (xrun ops).d.children) :
    ∃ a search, DerivedAnn (xrun ops).d (announced ops) me a search ∧
      (xrun ops).d.toldL d = some a.level ∧
      ((xrun ops).d.toldR d = some a.root ∨ ((xrun ops).d.toldR d = none ∧ a.level = 0)) := by
  obtain ⟨a, s, hder, h1, h2⟩ :=
    C13_truthful_children ops me hs (fun h => hd ((C13_degenerate_iff ops me).1 h)) hq d hc
  exact ⟨a, s, derived_announced ops me a s hder, h1, h2⟩

/-- **When the server socket drains no handler stays suspended** — so after every release (and whenever the socket
is not blocked) `C13_truthful_children` applies. -/
theorem C13_release_settles (ops : List XOp) :
    (xrun (ops ++ [.srvRelease])).pend = [] ∧ ((xrun ops).srvBlocked = false → (xrun ops).pend = []) := by
  refine ⟨?_, (xrun_xinv ops).binv.unblocked⟩
  rw [xrun_snoc]
  exact (srvRelease_xinv _ (xrun_xinv ops)).2

/-- **Every child in the list at the time of the change is sent the new values, regardless of what happens to the
others** (`send_messages_to_children`, one write task per child and message): a child whose socket is not dead is
told, whichever other sockets are dead; a blocked child socket makes nobody wait. -/
theorem C13_each_child_told (x : XState) (a : Adv) (c : ConnId) (hc : c ∈ x.d.children) (ha : c ∉ x.armed) :
    (tell x a).d.toldL c = some a.level ∧ (tell x a).d.toldR c = some a.root ∧ c ∈ (tell x a).d.children ∧
    (∀ e, xstep x (.childBlock e) = x ∧ xstep x (.childRelease e) = x) :=
  ⟨(tell_told x a c hc ha).1, (tell_told x a c hc ha).2, mem_tell_children.2 ⟨hc, ha⟩, fun _ => ⟨rfl, rfl⟩⟩

/-- **The atomic model is the special case**: a history without blocked / dead sockets runs exactly as in
`Model/Dist.lean` (whose `run` is also the tree model of C14). -/
theorem C13_atomic_model_refined (ops : List Op) : xrun (ops.map XOp.base) = { d := run ops } := xrun_base ops

/-! Non-vacuity: a reachable state with a session, a parent (connection 1, user 1, re-announced level 5, root 7)
and a child (connection 0, user 2); the hypotheses of the theorems above hold there, and the values told are
the derived ones. -/
def demo : List XOp :=
  [.base (.sessionInit 0), .base (.initialized 2 false), .base (.potentialParents [1, 3]),
   .base (.initialized 1 true), .base (.initialized 3 true), .base (.level 1 3), .base (.root 1 7),
   .base (.level 1 5)]

example : (xrun demo).d.session = some 0 ∧ (xrun demo).d.parent = some 1 ∧ (xrun demo).d.children = [0] ∧
    (xrun demo).d.live = [0, 1] ∧ (xrun demo).pend = [] := by decide
example : ¬ Degenerate (xrun demo).d 0 := by
  intro ⟨c, h1, h2⟩
  have : c = 1 := by
    have : (xrun demo).d.parent = some 1 := by decide
    rw [this] at h1; exact (Option.some.inj h1).symm
  subst this
  revert h2; decide
example : (xrun demo).d.toldServer = some (⟨6, 7⟩, false) ∧ (xrun demo).d.toldL 0 = some 6 ∧
    (xrun demo).d.toldR 0 = some 7 := by decide
-- a child is admitted in the last step of this history (the premise of `C13_child_admission`)
example : 0 ∈ (xrun ([.base (.sessionInit 0)] ++ [.base (.initialized 2 false)])).d.children ∧
    0 ∉ (xrun [.base (.sessionInit 0)]).d.children := by decide
-- the degenerate announcement is reachable (which is why it is named in the hypotheses)
example : Degenerate
    (xrun [.base (.sessionInit 0), .base (.initialized 1 true), .base (.level 0 2), .base (.root 0 0)]).d 0 :=
  ⟨0, by decide, by decide⟩

/-! The protocol's implicit root: the parent (connection 1, user 1) announced `(2, 7)`, child 0 and the server were told
`(3, 7)`; then it announces level 0 and nothing else — it is its own root now: `(1, 1)` is told; a level alone
afterwards keeps that root. The same for a candidate that announces a root first and then level 0. -/
def demoRoot : List XOp :=
  [.base (.sessionInit 0), .base (.initialized 2 false), .base (.potentialParents [1]),
   .base (.initialized 1 true), .base (.level 1 2), .base (.root 1 7)]

example : (xrun demoRoot).d.toldServer = some (⟨3, 7⟩, false) ∧ (xrun demoRoot).d.toldR 0 = some 7 := by decide
example : (xrun (demoRoot ++ [.base (.level 1 0)])).alive 1 := ⟨by decide, by decide⟩
example : (xrun (demoRoot ++ [.base (.level 1 0)])).d.toldServer = some (⟨1, 1⟩, false) ∧
    (xrun (demoRoot ++ [.base (.level 1 0)])).d.toldL 0 = some 1 ∧
    (xrun (demoRoot ++ [.base (.level 1 0)])).d.toldR 0 = some 1 ∧
    (announced (demoRoot ++ [.base (.level 1 0)])).root 1 = some 1 := by decide
example : (xrun (demoRoot ++ [.base (.level 1 0), .base (.level 1 4)])).d.toldServer = some (⟨5, 1⟩, false) := by
  decide
example : (xrun [.base (.sessionInit 0), .base (.potentialParents [1]), .base (.initialized 1 true),
    .base (.root 0 7), .base (.level 0 0)]).d.toldServer = some (⟨1, 1⟩, false) := by decide

/-! Suspended sends: two children (connections 0, 1), a candidate (connection 2) that has announced its root. The
server socket blocks; the candidate's level makes it the parent — the server is told `(2, 5)` at once, the children are
not yet (one handler pending); meanwhile user 4 connects (admitted, told the new position) and child 0's socket dies;
on release the remaining children are told, child 0 is gone. -/
def demoSusp : List XOp :=
  [.base (.sessionInit 0), .base (.initialized 1 false), .base (.initialized 2 false),
   .base (.potentialParents [3]), .base (.initialized 3 true), .base (.root 2 5), .srvBlock,
   .base (.level 2 1), .base (.initialized 4 false), .arm 0]

example : (xrun demoSusp).d.parent = some 2 ∧ (xrun demoSusp).d.toldServer = some (⟨2, 5⟩, false) ∧
    (xrun demoSusp).pend = [.tellAdv] ∧ (xrun demoSusp).d.children = [0, 1, 3] ∧
    (xrun demoSusp).d.toldL 1 = some 0 ∧ (xrun demoSusp).d.toldL 3 = some 2 := by decide
example : (xrun (demoSusp ++ [.srvRelease])).d.children = [1, 3] ∧ (xrun (demoSusp ++ [.srvRelease])).pend = [] ∧
    (xrun (demoSusp ++ [.srvRelease])).d.toldL 1 = some 2 ∧ (xrun (demoSusp ++ [.srvRelease])).d.toldR 1 = some 5 ∧
    (xrun (demoSusp ++ [.srvRelease])).d.live = [1, 2, 3] := by decide
-- the whole wire domain: a ratio that is not a multiple of 10 (25, speed 20480: divider 2560, maximum 8 — not the 10
-- that dividing the ratio first would give), a ratio above every speed on the wire (maximum 0 with acceptance on)
example : maxChildrenOf 20480 25 = 8 ∧ maxChildrenOf 2048 15 = 1 ∧ maxChildrenOf 30000 35 = 8 ∧
    maxChildrenOf 4294967295 4294967295 = 0 ∧ maxChildrenOf 4294967295 1 = 41943039 := by decide
example : (xrun [.base (.sessionInit 0), .base (.speedRatio 25), .base (.userStats 0 20480)]).d.maxChildren = 8 ∧
    (xrun [.base (.sessionInit 0), .base (.speedRatio 25), .base (.userStats 0 20480)]).d.accept = true := by decide
-- limits bind at once: the statistics lower the maximum to 1 while the `AcceptChildren` send is suspended; the
-- connection that arrives meanwhile is not admitted
example : (xrun [.base (.sessionInit 0), .base (.userStats 0 10240), .base (.initialized 1 false), .srvBlock,
    .base (.userStats 0 5120), .base (.initialized 2 false)]).d.children = [0] ∧
    (limits [.base (.sessionInit 0), .base (.userStats 0 10240), .base (.initialized 1 false), .srvBlock,
    .base (.userStats 0 5120)]).max = 1 := by decide

end AioslskVerif.C13
