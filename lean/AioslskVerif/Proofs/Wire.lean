import AioslskVerif.Model.Wire
import AioslskVerif.Model.Obfs
/-! The prefix-parser round trip (C01) and decoder progress (C02), each by recursion over the wire types.
The fixed-width readers and writers are instances of `rdN` and `leBytes`: what holds of every width is
proved there. -/
namespace AioslskVerif.Wire
open Obfs (leNat)  -- the little-endian value of a byte list, which the model defines for keys

def leBytes : Nat → Nat → Bytes
  | 0, _ => []
  | w + 1, n => byte n :: leBytes w (n / 256)

def rdN (w : Nat) (bs : Bytes) : Except DErr (Nat × Bytes) :=
  if w ≤ bs.length then .ok (leNat (bs.take w), bs.drop w) else .error .struct

theorem leBytes_length : ∀ (w n : Nat), (leBytes w n).length = w
  | 0, _ => rfl
  | w + 1, n => congrArg (· + 1) (leBytes_length w (n / 256))

theorem leNat_leBytes : ∀ (w n : Nat), leNat (leBytes w n) = n % 256 ^ w
  | 0, n => by simp [leBytes, leNat, Nat.mod_one]
  | w + 1, n => by
    rw [leBytes, leNat, leNat_leBytes w, byte_toNat, Nat.pow_succ, Nat.mul_comm (256 ^ w), Nat.mod_mul]

theorem rdN_leBytes {w n : Nat} (h : n < 256 ^ w) (r : Bytes) : rdN w (leBytes w n ++ r) = .ok (n, r) := by
  have hl := leBytes_length w n
  rw [rdN, if_pos (by simp [hl]), List.take_left' hl, List.drop_left' hl, leNat_leBytes, Nat.mod_eq_of_lt h]

theorem rdN_len {w : Nat} {bs : Bytes} {n : Nat} {r : Bytes} (h : rdN w bs = .ok (n, r)) :
    r.length + w = bs.length := by
  unfold rdN at h
  split at h
  · cases h; rw [List.length_drop]; omega
  · cases h

theorem rd8_eq (bs : Bytes) : rd8 bs = rdN 1 bs := by
  match bs with
  | a :: r => exact congrArg (fun x => Except.ok (x, r)) (show _ = leNat [a] by simp [leNat])
  | [] => rfl

theorem rd16_eq (bs : Bytes) : rd16 bs = rdN 2 bs := by
  match bs with
  | a :: b :: r => exact congrArg (fun x => Except.ok (x, r)) (show _ = leNat [a, b] by simp [leNat])
  | [] | [_] => rfl

-- `leNat` is in Horner form, the reader's sum is flat: distribute and fold the literals (`omega` is
-- slow on coefficients of this size)
theorem rd32_eq (bs : Bytes) : rd32 bs = rdN 4 bs := by
  match bs with
  | a :: b :: c :: d :: r =>
    exact congrArg (fun x => Except.ok (x, r)) (show _ = leNat [a, b, c, d] by
      simp only [leNat, Nat.mul_add, ← Nat.mul_assoc, Nat.add_assoc, Nat.mul_zero, Nat.add_zero, Nat.reduceMul])
  | [] | [_] | [_, _] | [_, _, _] => rfl

theorem rd64_eq (bs : Bytes) : rd64 bs = rdN 8 bs := by
  match bs with
  | a :: b :: c :: d :: e :: f :: g :: h :: r =>
    exact congrArg (fun x => Except.ok (x, r)) (show _ = leNat [a, b, c, d, e, f, g, h] by
      simp only [leNat, Nat.mul_add, ← Nat.mul_assoc, Nat.add_assoc, Nat.mul_zero, Nat.add_zero, Nat.reduceMul])
  | [] | [_] | [_, _] | [_, _, _] | [_, _, _, _] | [_, _, _, _, _] | [_, _, _, _, _, _]
  | [_, _, _, _, _, _, _] => rfl

theorem le32_eq (n : Nat) : le32 n = leBytes 4 n := by simp [le32, leBytes, Nat.div_div_eq_div_mul]
theorem le64_eq (n : Nat) : le64 n = leBytes 8 n := by simp [le64, leBytes, Nat.div_div_eq_div_mul]

theorem rd8_byte (n : Nat) (h : n < 256) (r : Bytes) : rd8 (byte n :: r) = .ok (n, r) := by
  rw [rd8_eq]; exact rdN_leBytes (w := 1) h r

theorem rd16_le16 (n : Nat) (h : n < 65536) (r : Bytes) : rd16 (le16 n ++ r) = .ok (n, r) := by
  rw [rd16_eq]; exact rdN_leBytes (w := 2) h r

theorem rd32_le32 (n : Nat) (h : n < 4294967296) (r : Bytes) : rd32 (le32 n ++ r) = .ok (n, r) := by
  rw [rd32_eq, le32_eq]; exact rdN_leBytes h r

theorem rd64_le64 (n : Nat) (h : n < 18446744073709551616) (r : Bytes) :
    rd64 (le64 n ++ r) = .ok (n, r) := by
  rw [rd64_eq, le64_eq]; exact rdN_leBytes h r

theorem rd32_len {bs : Bytes} {n : Nat} {r : Bytes} (h : rd32 bs = .ok (n, r)) : r.length + 4 = bs.length :=
  rdN_len (rd32_eq bs ▸ h)

theorem le32_length (n : Nat) : (le32 n).length = 4 := rfl
theorem le64_length (n : Nat) : (le64 n).length = 8 := rfl

theorem encI32_lt (i : Int) (h : -2147483648 ≤ i ∧ i < 2147483648) : encI32 i < 4294967296 := by
  unfold encI32; split <;> omega

theorem decI32_encI32 (i : Int) (h : -2147483648 ≤ i ∧ i < 2147483648) : decI32 (encI32 i) = i := by
  unfold decI32 encI32; split <;> split <;> omega

theorem utf8Dec_utf8Enc (cs : List Char) : utf8Dec (utf8Enc cs) = some cs := by
  unfold utf8Dec utf8Enc
  have h : (⟨(String.ofList cs).toUTF8.data.toList.toArray⟩ : ByteArray) = cs.utf8Encode := by
    simp [String.toUTF8_eq_toByteArray]
  rw [h, List.utf8Decode?_utf8Encode]; simp

theorem decodeString_utf8Enc (cs : List Char) : decodeString (utf8Enc cs) = .ok cs := by
  simp [decodeString, utf8Dec_utf8Enc]

@[simp] theorem except_bind_ok {ε α β : Type} (a : α) (f : α → Except ε β) :
    ((Except.ok a : Except ε α) >>= f) = f a := rfl
@[simp] theorem except_bind_error {ε α β : Type} (e : ε) (f : α → Except ε β) :
    ((Except.error e : Except ε α) >>= f) = Except.error e := rfl
@[simp] theorem except_pure {ε α : Type} (a : α) : (pure a : Except ε α) = .ok a := rfl

theorem bind_ok {α β : Type} {e : Except DErr α} {f : α → Except DErr β} {b : β}
    (h : (e >>= f) = .ok b) : ∃ a, e = .ok a ∧ f a = .ok b := by
  cases e with
  | error x => cases h
  | ok a => exact ⟨a, rfl, h⟩

-- `enc` reduces by evaluation (`cases h` sees `none = some b` for a value of the wrong kind); `dec` is
-- defined by well-founded recursion and is opened with `unfold`.
theorem dec_enc_prim {p : Prim} {v : Val} {b : Bytes} (r : Bytes) (hp : p ≠ .ticket)
    (h : enc (.prim p) v = some b) : dec (.prim p) (b ++ r) = .ok (v, r) := by
  cases p with
  | ticket => exact absurd rfl hp
  | u8 => cases v with
    | nat n =>
      obtain ⟨hn, h⟩ := Option.ite_none_right_eq_some.mp h; cases h
      unfold dec; rw [List.singleton_append, rd8_byte n hn]; rfl
    | _ => cases h
  | u16 => cases v with
    | nat n =>
      obtain ⟨hn, h⟩ := Option.ite_none_right_eq_some.mp h; cases h
      unfold dec; rw [rd16_le16 n hn]; rfl
    | _ => cases h
  | u32 => cases v with
    | nat n =>
      obtain ⟨hn, h⟩ := Option.ite_none_right_eq_some.mp h; cases h
      unfold dec; rw [rd32_le32 n hn]; rfl
    | _ => cases h
  | u64 => cases v with
    | nat n =>
      obtain ⟨hn, h⟩ := Option.ite_none_right_eq_some.mp h; cases h
      unfold dec; rw [rd64_le64 n hn]; rfl
    | _ => cases h
  | i32 => cases v with
    | int i =>
      obtain ⟨hi, h⟩ := Option.ite_none_right_eq_some.mp h; cases h
      unfold dec; rw [rd32_le32 _ (encI32_lt i hi)]
      show Except.ok (Val.int (decI32 (encI32 i)), r) = _
      rw [decI32_encI32 i hi]
    | _ => cases h
  | bool => cases v with
    | bool x => cases h; unfold dec; cases x <;> rfl
    | _ => cases h
  | str => cases v with
    | str cs =>
      obtain ⟨hn, h⟩ := Option.ite_none_right_eq_some.mp h; cases h
      unfold dec; rw [List.append_assoc, rd32_le32 _ hn]
      -- the length check passes, since the bytes written are there; `take` and `drop` cut them off again,
      -- and they decode to `cs`
      have hlen : ¬(utf8Enc cs).length + r.length < (utf8Enc cs).length := by omega
      simp [hlen, decodeString_utf8Enc]
    | _ => cases h
  | bytes => cases v with
    | bytes bs =>
      obtain ⟨hn, h⟩ := Option.ite_none_right_eq_some.mp h; cases h
      unfold dec; rw [List.append_assoc, rd32_le32 _ hn]
      simp
    | _ => cases h
  | ip => cases v with
    | ip a b c d => cases h; unfold dec; rfl
    | _ => cases h

theorem enc_arr_some {e : Ty} {v : Val} {b : Bytes} (h : enc (.arr e) v = some b) :
    ∃ vs b', v = .arr vs ∧ vs.length < 4294967296 ∧ encList e vs = some b' ∧ le32 vs.length ++ b' = b := by
  cases v with
  | arr vs =>
    obtain ⟨hl, h⟩ := Option.ite_none_right_eq_some.mp h
    obtain ⟨b', hb, h⟩ := Option.map_eq_some_iff.mp h
    exact ⟨vs, b', rfl, hl, hb, h⟩
  | _ => cases h

theorem enc_record_some {fs : List Ty} {v : Val} {b : Bytes} (h : enc (.record fs) v = some b) :
    ∃ vs, v = .record vs ∧ encRec fs vs = some b := by
  cases v with
  | record vs => exact ⟨vs, rfl, h⟩
  | _ => cases h

-- The element loop stays out of the mutual recursion below, which is then structural in the type (this
-- lemma recurses on the values at a fixed type).
theorem decList_encList_of {e : Ty}
    (he : ∀ (v : Val) (b r : Bytes), enc e v = some b → dec e (b ++ r) = .ok (v, r)) :
    ∀ (vs : List Val) (b r : Bytes), encList e vs = some b → decList e vs.length (b ++ r) = .ok (vs, r)
  | [], b, r, h => by cases h; unfold decList; rfl
  | v :: vs, b, r, h => by
    obtain ⟨a, ha, h⟩ := Option.bind_eq_some_iff.mp h
    obtain ⟨b', hb, h⟩ := Option.bind_eq_some_iff.mp h
    cases h
    rw [List.length_cons, decList, List.append_assoc, he v a _ ha, except_bind_ok]
    show decList e vs.length (b' ++ r) >>= _ = _
    rw [decList_encList_of he vs b' r hb]; rfl

mutual
theorem dec_enc : ∀ (t : Ty) (v : Val) (b r : Bytes), t.noTicket = true → enc t v = some b →
    dec t (b ++ r) = .ok (v, r)
  | .prim p, v, b, r, ht, h => dec_enc_prim r (by rintro rfl; cases ht) h
  | .arr e, v, b, r, ht, h => by
    obtain ⟨vs, b', rfl, hl, hb, rfl⟩ := enc_arr_some h
    unfold dec
    rw [List.append_assoc, rd32_le32 _ hl, except_bind_ok]
    show decList e vs.length (b' ++ r) >>= _ = _
    rw [decList_encList_of (fun v b r => dec_enc e v b r ht) vs b' r hb]; rfl
  | .record fs, v, b, r, ht, h => by
    obtain ⟨vs, rfl, h⟩ := enc_record_some h
    unfold dec
    rw [decRec_encRec fs vs b r ht h]; rfl
theorem decRec_encRec : ∀ (fs : List Ty) (vs : List Val) (b r : Bytes), Ty.noTicketL fs = true →
    encRec fs vs = some b → decRec fs (b ++ r) = .ok (vs, r)
  | [], [], b, r, _, h => by cases h; unfold decRec; rfl
  | f :: fs, v :: vs, b, r, ht, h => by
    obtain ⟨a, ha, h⟩ := Option.bind_eq_some_iff.mp h
    obtain ⟨b', hb, h⟩ := Option.bind_eq_some_iff.mp h
    cases h
    have ht : f.noTicket = true ∧ Ty.noTicketL fs = true := by simpa [Ty.noTicketL] using ht
    unfold decRec
    rw [List.append_assoc, dec_enc f v a (b' ++ r) ht.1 ha, except_bind_ok]
    show decRec fs (b' ++ r) >>= _ = _
    rw [decRec_encRec fs vs b' r ht.2 hb]; rfl
  | [], _ :: _, _, _, _, h => by cases h
  | _ :: _, [], _, _, _, h => by cases h
end

theorem decList_encList : ∀ (e : Ty) (vs : List Val) (b r : Bytes), e.noTicket = true →
    encList e vs = some b → decList e vs.length (b ++ r) = .ok (vs, r) :=
  fun e vs b r ht h => decList_encList_of (fun v b r => dec_enc e v b r ht) vs b r h

theorem dec_prim_progress {p : Prim} {bs : Bytes} {v : Val} {r : Bytes}
    (h : dec (.prim p) bs = .ok (v, r)) : r.length < bs.length := by
  cases p <;> unfold dec at h
  case ip =>
    split at h
    · cases h; simp only [List.length_cons]; omega
    · cases h
  case ticket =>
    split at h
    · next =>  -- exactly 4 bytes remain: `uint32`
      obtain ⟨⟨n, r'⟩, hr, h⟩ := bind_ok h
      cases h
      have := rd32_len hr; omega
    · next =>  -- `uint64`
      obtain ⟨⟨n, r'⟩, hr, h⟩ := bind_ok h
      cases h
      have := rdN_len (rd64_eq bs ▸ hr); omega
  case str =>
    obtain ⟨⟨n, r'⟩, hr, h⟩ := bind_ok h
    have := rd32_len hr
    dsimp only at h
    split at h
    · cases h
    · obtain ⟨cs, _, h⟩ := bind_ok h
      cases h; rw [List.length_drop]; omega
  case bytes =>
    obtain ⟨⟨n, r'⟩, hr, h⟩ := bind_ok h
    have := rd32_len hr
    cases h; rw [List.length_drop]; omega
  -- `u8 u16 u32 u64 i32 bool`: one integer of fixed width
  all_goals
    obtain ⟨⟨n, r'⟩, hr, h⟩ := bind_ok h
    cases h
    simp only [rd8_eq, rd16_eq, rd32_eq, rd64_eq] at hr
    have := rdN_len hr
    omega

theorem decList_progress_of {e : Ty} {k : Nat}
    (he : ∀ bs v r, dec e bs = .ok (v, r) → r.length + k ≤ bs.length) :
    ∀ (n : Nat) (bs : Bytes) (vs : List Val) (r : Bytes), decList e n bs = .ok (vs, r) →
      r.length + n * k ≤ bs.length
  | 0, bs, vs, r, h => by unfold decList at h; cases h; simp
  | n + 1, bs, vs, r, h => by
    unfold decList at h
    obtain ⟨⟨v, r'⟩, hd, h⟩ := bind_ok h
    obtain ⟨⟨vs', r''⟩, hl, h⟩ := bind_ok h
    cases h
    have := he bs v r' hd
    have := decList_progress_of he n r' vs' r hl
    rw [Nat.succ_mul]; omega

mutual
theorem dec_progress : ∀ (t : Ty) (bs : Bytes) (v : Val) (r : Bytes), dec t bs = .ok (v, r) →
    r.length ≤ bs.length ∧ (t.pos = true → r.length < bs.length)
  | .prim p, bs, v, r, h => have := dec_prim_progress h; ⟨Nat.le_of_lt this, fun _ => this⟩
  | .arr e, bs, v, r, h => by
    unfold dec at h
    obtain ⟨⟨n, r'⟩, hr, h⟩ := bind_ok h
    obtain ⟨⟨vs, r''⟩, hl, h⟩ := bind_ok h
    cases h
    have := rd32_len hr
    have := decList_progress_of (k := 0) (fun bs v r h => (dec_progress e bs v r h).1) n r' vs r hl
    exact ⟨by omega, fun _ => by omega⟩
  | .record fs, bs, v, r, h => by
    unfold dec at h
    obtain ⟨⟨vs, r'⟩, hl, h⟩ := bind_ok h
    cases h
    exact decRec_progress fs bs vs r hl
theorem decRec_progress : ∀ (fs : List Ty) (bs : Bytes) (vs : List Val) (r : Bytes),
    decRec fs bs = .ok (vs, r) → r.length ≤ bs.length ∧ (Ty.posL fs = true → r.length < bs.length)
  | [], bs, vs, r, h => by unfold decRec at h; cases h; simp [Ty.posL]
  | f :: fs, bs, vs, r, h => by
    unfold decRec at h
    obtain ⟨⟨v, r'⟩, hd, h⟩ := bind_ok h
    obtain ⟨⟨vs', r''⟩, hl, h⟩ := bind_ok h
    cases h
    have h1 := dec_progress f bs v r' hd
    have h2 := decRec_progress fs r' vs' r hl
    refine ⟨by omega, fun hp => ?_⟩
    simp only [Ty.posL, Bool.or_eq_true] at hp
    rcases hp with hp | hp
    · have := h1.2 hp; omega
    · have := h2.2 hp; omega
end

end AioslskVerif.Wire
