import AioslskVerif.Spec.Rooms
/-!
`view` turns the managers' containers into the predicates and partial maps of the specification.  The containers'
operations (`AL.set` / `AL.erase`, `sadd` / `sdiscard`) are homomorphic to the specification's (`ins`, `del`, function
update), so `withRoom` is seen as `touch` and `withUser` as `upd`, and every handler, a composition of those, commutes
with `view`.  The one invariant is `UsersNodup`: `list.remove` acts as set removal only on a duplicate-free list.
-/
namespace AioslskVerif.Rooms
open Spec

namespace AL
variable {α β : Type}

theorem find_set (k k' : Nat) (v : α) (l : List (Nat × α)) :
    find k' (set k v l) = if k' = k then some v else find k' l := by
  fun_induction set k v l <;> grind [find]

theorem find_filter (q : Nat → Bool) (k : Nat) (l : List (Nat × α)) :
    find k (l.filter (fun p => q p.1)) = if q k then find k l else none := by
  induction l with
  | nil => simp [find]
  | cons p t ih => grind [find]

theorem find_erase (k k' : Nat) (l : List (Nat × α)) :
    find k' (erase k l) = if k' = k then none else find k' l := by
  rw [erase, find_filter (· != k)]
  by_cases h : k' = k <;> simp [h]

theorem find_map (F : Nat × α → β) (k : Nat) (l : List (Nat × α)) :
    find k (l.map (fun p => (p.1, F p))) = (find k l).map (fun x => F (k, x)) := by
  induction l with
  | nil => rfl
  | cons p t ih =>
    simp only [List.map, find, ih]
    split
    · next h => rw [← h]; rfl
    · rfl

theorem find_append (k : Nat) (l₁ l₂ : List (Nat × α)) : find k (l₁ ++ l₂) = (find k l₁).or (find k l₂) := by
  induction l₁ with
  | nil => rfl
  | cons p t ih => simp only [List.cons_append, find, ih]; split <;> rfl

theorem mem_of_find {k : Nat} {v : α} {l : List (Nat × α)} (h : find k l = some v) : (k, v) ∈ l := by
  induction l with
  | nil => cases h
  | cons p t ih =>
    simp only [find] at h
    split at h
    · next hk => cases h; cases hk; exact List.mem_cons_self
    · exact List.mem_cons_of_mem _ (ih h)

theorem mem_set {k : Nat} {v : α} {l : List (Nat × α)} {p : Nat × α} (h : p ∈ set k v l) : p = (k, v) ∨ p ∈ l := by
  induction l with
  | nil => exact .inl (List.mem_singleton.1 h)
  | cons q t ih => grind [set]

theorem find_foldl_set (ts : List (Nat × α)) (d : List (Nat × α)) (u : Nat) :
    find u (ts.foldl (fun d p => set p.1 p.2 d) d) = (find u ts.reverse).or (find u d) := by
  induction ts generalizing d with
  | nil => rfl
  | cons a t ih =>
    simp only [List.foldl, ih, find_set, List.reverse_cons, find_append, Option.or_assoc, find]
    congr 1
    by_cases h : a.1 = u
    · simp [h]
    · simp [h, Ne.symm h]

end AL

@[simp] theorem mem_sadd (u v : Nat) (l : List Nat) : v ∈ sadd u l ↔ v = u ∨ v ∈ l := by
  unfold sadd; grind
@[simp] theorem mem_sdiscard (u v : Nat) (l : List Nat) : v ∈ sdiscard u l ↔ v ≠ u ∧ v ∈ l := by
  simp [sdiscard, and_comm]

@[simp] theorem contains_sadd (u v : Nat) (l : List Nat) : (sadd u l).contains v = (v == u || l.contains v) :=
  Bool.eq_iff_iff.2 (by simp)

@[simp] theorem contains_sdiscard (u v : Nat) (l : List Nat) : (sdiscard u l).contains v = (v != u && l.contains v) :=
  Bool.eq_iff_iff.2 (by simp)

theorem ofList_sadd (u : Nat) (l : List Nat) : ofList (sadd u l) = ins u (ofList l) :=
  funext fun v => contains_sadd u v l

theorem ofList_sdiscard (u : Nat) (l : List Nat) : ofList (sdiscard u l) = del u (ofList l) :=
  funext fun v => contains_sdiscard u v l

theorem sadd_sadd (u : Nat) (l : List Nat) : sadd u (sadd u l) = sadd u l := by
  rw [sadd, if_pos ((mem_sadd u u l).2 (.inl rfl))]

theorem nodup_sadd {u : Nat} {l : List Nat} (h : l.Nodup) : (sadd u l).Nodup := by
  unfold sadd
  split
  · exact h
  · next hu =>
    refine List.nodup_append.2 ⟨h, List.nodup_cons.2 ⟨List.not_mem_nil, List.nodup_nil⟩, fun a ha b hb e => ?_⟩
    rw [e, List.mem_singleton.1 hb] at ha
    exact hu ha

theorem Room.addUser_eq (x : Room) (u : Nat) : x.addUser u = { x with users := sadd u x.users } := by
  unfold Room.addUser sadd
  split <;> rfl

theorem Room.removeUser_eq (x : Room) (u : Nat) (h : x.users.Nodup) :
    x.removeUser u = { x with users := sdiscard u x.users } := by
  rw [Room.removeUser, h.erase_eq_filter]; rfl

theorem nodup_addUser (x : Room) (u : Nat) (h : x.users.Nodup) : (x.addUser u).users.Nodup := by
  rw [Room.addUser_eq]
  exact nodup_sadd h

theorem state_ext {a b : Spec.State} (h1 : a.room = b.room) (h2 : a.user = b.user) (h3 : a.timeLeft = b.timeLeft) :
    a = b := by
  cases a; cases b; simp_all

/-- `roomView` with the three sets written as `ofList`, the form `ofList_sadd` / `ofList_sdiscard` rewrite -/
theorem roomView_eq (x : Room) : roomView x =
    { joined := x.joined, priv := x.priv, users := ofList x.users, owner := x.owner, members := ofList x.members,
      operators := ofList x.operators, tickers := fun u => AL.find u x.tickers } := rfl

def State.getRoom (s : State) (r : Nat) (p : Bool) : Room := (AL.find r s.rooms).getD (Room.new p)

theorem withRoom_eq (s : State) (r : Nat) (p : Bool) (f : Room → Room) :
    s.withRoom r p f = { s with rooms := AL.set r (f (s.getRoom r p)) s.rooms } := rfl

@[simp] theorem getRoom_touchUser (s : State) (u r : Nat) (p : Bool) : (s.touchUser u).getRoom r p = s.getRoom r p := rfl
@[simp] theorem getRoom_withUser (s : State) (u r : Nat) (p : Bool) (f : User → User) :
    (s.withUser u f).getRoom r p = s.getRoom r p := rfl

theorem view_room_getD (s : State) (r : Nat) (p : Bool) :
    ((view s).room r).getD (Spec.Room.new p) = roomView (s.getRoom r p) := by
  show ((AL.find r s.rooms).map roomView).getD _ = roomView ((AL.find r s.rooms).getD _)
  cases AL.find r s.rooms <;> rfl

/-- `get_or_create_room` on managers seen as `σ`, then a mutation `f` of the room object that is seen as `g`
on that room: the room is touched with `g`.  Every room handler is an instance; the side condition is closed by
`roomView_eq` and the homomorphism lemmas (`ofList_sadd`, `ofList_sdiscard`, `AL.find_set`, `AL.find_erase`). -/
theorem view_withRoom {s : State} {σ : Spec.State} (hσ : view s = σ) (r : Nat) (p : Bool) (f : Room → Room)
    (g : Spec.Room → Spec.Room) (h : roomView (f (s.getRoom r p)) = g (roomView (s.getRoom r p))) :
    view (s.withRoom r p f) = σ.touch r p g := by
  subst hσ
  refine state_ext (funext fun r' => ?_) rfl rfl
  show (AL.find r' (AL.set r _ s.rooms)).map roomView = if r' = r then some (g _) else _
  rw [AL.find_set, view_room_getD, ← h]
  split <;> rfl

theorem touch_touch (σ : Spec.State) (r : Nat) (p p' : Bool) (g g' : Spec.Room → Spec.Room) :
    (σ.touch r p g).touch r p' g' = σ.touch r p (fun x => g' (g x)) := by
  refine state_ext (funext fun r' => ?_) rfl rfl
  simp only [Spec.State.touch, if_true, Option.getD_some]
  split <;> rfl

theorem touch_id_touch (σ : Spec.State) (r : Nat) (p p' : Bool) (g : Spec.Room → Spec.Room) :
    (σ.touch r p id).touch r p' g = σ.touch r p g := touch_touch σ r p p' id g

theorem touch_upd (σ : Spec.State) (r u : Nat) (p : Bool) (g : Spec.Room → Spec.Room) (h : User → User) :
    ((σ.upd u h).touch r p g) = ((σ.touch r p g).upd u h) := rfl

theorem getUser_withUser (s : State) (u u' : Nat) (f : User → User) :
    (s.withUser u f).getUser u' = if u' = u then f (s.getUser u) else s.getUser u' := by
  show (AL.find u' (AL.set u _ s.users)).getD _ = _
  rw [AL.find_set]
  split <;> rfl

theorem view_withUser (s : State) (u : Nat) (f : User → User) : view (s.withUser u f) = (view s).upd u f :=
  state_ext rfl (funext fun u' => getUser_withUser s u u' f) rfl

/-- creating the `User` object changes nothing an observer sees: `get_user_object` would have made the same one -/
@[simp] theorem view_touchUser (s : State) (u : Nat) : view (s.touchUser u) = view s := by
  refine (view_withUser s u id).trans (state_ext rfl (funext fun u' => ?_) rfl)
  simp only [Spec.State.upd]
  split
  · next h => rw [h]; rfl
  · rfl

theorem view_touchFold {α : Type} (k : α → Nat) (l : List α) (s : State) :
    view (l.foldl (fun s a => s.touchUser (k a)) s) = view s := by
  induction l generalizing s with
  | nil => rfl
  | cons a t ih => exact (ih _).trans (view_touchUser s (k a))

theorem rooms_touchFold {α : Type} (k : α → Nat) (l : List α) (s : State) :
    (l.foldl (fun s a => s.touchUser (k a)) s).rooms = s.rooms := by
  induction l generalizing s with
  | nil => rfl
  | cons a t ih => exact ih _

def joinStep (r : Nat) (s : State) (e : Entry) : State :=
  (s.withUser e.name e.apply).withRoom r false (·.addUser e.name)

theorem view_joinStep (r : Nat) (s : State) (e : Entry) :
    view (joinStep r s e) = ((view s).upd e.name e.apply).touch r false (fun x => { x with users := ins e.name x.users }) := by
  refine view_withRoom (view_withUser s e.name e.apply) _ _ _ _ ?_
  simp only [Room.addUser_eq, roomView_eq, ofList_sadd]

theorem lastEntry_cons (e : Entry) (es : List Entry) (u : Nat) :
    lastEntry (e :: es) u = (lastEntry es u).or (if u = e.name then some e else none) := by
  simp only [lastEntry, List.reverse_cons, List.find?_append, List.find?_cons, List.find?_nil]
  by_cases h : u = e.name
  · simp [h]
  · simp [h, beq_false_of_ne (Ne.symm h)]

theorem apply_apply (e e' : Entry) (x : User) : e'.apply (e.apply x) = e'.apply x := rfl

theorem foldl_ins (es : List Entry) (f : Nat → Bool) :
    es.foldl (fun f e => ins e.name f) f = fun v => f v || (es.map (·.name)).contains v := by
  induction es generalizing f with
  | nil => funext v; simp
  | cons e es ih =>
    funext v
    simp only [List.foldl, ih, ins, List.map, List.contains_cons, Bool.or_assoc, Bool.or_left_comm]

/-- The loop, followed by one more mutation `g` of the room (the handler always ends with one, so the room need not
be assumed known): the names accumulate in the room, and every user is updated by the last entry that names it. -/
theorem view_joinLoop (r : Nat) (g : Spec.Room → Spec.Room) (es : List Entry) (s : State) :
    (view (es.foldl (joinStep r) s)).touch r false g =
      { (view s).touch r false (fun x => g { x with users := es.foldl (fun f e => ins e.name f) x.users }) with
        user := fun u => (lastEntry es u).elim ((view s).user u) (fun e => e.apply ((view s).user u)) } := by
  induction es generalizing s with
  | nil => rfl
  | cons e es ih =>
    rw [List.foldl, ih, view_joinStep, touch_touch]
    refine state_ext rfl (funext fun u => ?_) rfl
    simp only [Spec.State.touch, Spec.State.upd, lastEntry_cons]
    by_cases hu : u = e.name
    · subst hu
      cases lastEntry es e.name <;> simp [apply_apply]
    · cases lastEntry es u <;> simp [hu]

theorem takeWhile_all {α : Type} (p : α → Bool) (l : List α) (h : l.all p = true) : l.takeWhile p = l := by
  induction l with
  | nil => rfl
  | cons a t ih =>
    simp only [List.all_cons, Bool.and_eq_true] at h
    simp [List.takeWhile, h.1, ih h.2]

theorem drop_takeWhile_of_not_all {α : Type} (p : α → Bool) (l : List α) (h : l.all p = false) :
    ∃ a t, l.drop (l.takeWhile p).length = a :: t := by
  induction l with
  | nil => cases h
  | cons a t ih =>
    cases hp : p a
    · exact ⟨a, t, by simp [List.takeWhile, hp]⟩
    · simpa [List.takeWhile, hp] using ih (by simpa [hp] using h)

theorem rest_withRoomFold (l : List Nat) (p : Bool) (f : Room → Room) (s : State) :
    (l.foldl (fun s r => s.withRoom r p f) s).users = s.users ∧
    (l.foldl (fun s r => s.withRoom r p f) s).privSet = s.privSet ∧
    (l.foldl (fun s r => s.withRoom r p f) s).timeLeft = s.timeLeft := by
  induction l generalizing s with
  | nil => exact ⟨rfl, rfl, rfl⟩
  | cons a t ih => exact ih _

/-- `f` is applied once per occurrence of `r` in `l`: idempotence makes the number of occurrences irrelevant -/
theorem find_withRoomFold (l : List Nat) (p : Bool) (f : Room → Room) (hf : ∀ x, f (f x) = f x) (s : State) (r : Nat) :
    AL.find r (l.foldl (fun s r' => s.withRoom r' p f) s).rooms =
      if l.contains r then some (f ((AL.find r s.rooms).getD (Room.new p))) else AL.find r s.rooms := by
  induction l generalizing s with
  | nil => rfl
  | cons a t ih =>
    rw [List.foldl, ih, withRoom_eq, AL.find_set, State.getRoom, List.contains_cons]
    by_cases h : r = a
    · subst h
      cases t.contains r <;> simp [hf]
    · cases t.contains r <;> simp [h]

/-- What the four passes and the pruning leave of room `r`, for any idempotent mutations: a listed room is there,
each pass that lists it has mutated it, and if it had to be created it started private unless the public pass did
that.  (The mutations are variables: with the record updates of the handler put in, the four rewrites below would
copy the inner term once per field at every level.) -/
theorem find_passes (fB fC fD : Room → Room) (hB : ∀ x, fB (fB x) = fB x) (hC : ∀ x, fC (fC x) = fC x)
    (hD : ∀ x, fD (fD x) = fD x) (s : State) (pub owned priv oper : List Nat) (r : Nat) :
    AL.find r ((oper.foldl (fun s r => s.withRoom r true fD) (priv.foldl (fun s r => s.withRoom r true fC)
        (owned.foldl (fun s r => s.withRoom r true fB) (pub.foldl (fun s r => s.withRoom r false id) s)))).rooms.filter
          (fun p => pub.contains p.1 || priv.contains p.1 || owned.contains p.1)) =
      if pub.contains r || priv.contains r || owned.contains r then
        some ((if oper.contains r then fD else id) ((if priv.contains r then fC else id)
          ((if owned.contains r then fB else id) (s.getRoom r (!pub.contains r)))))
      else none := by
  rw [AL.find_filter (fun k => pub.contains k || priv.contains k || owned.contains k),
    find_withRoomFold oper true fD hD, find_withRoomFold priv true fC hC, find_withRoomFold owned true fB hB,
    find_withRoomFold pub false id (fun _ => rfl), State.getRoom]
  cases pub.contains r <;> cases owned.contains r <;> cases priv.contains r <;> cases oper.contains r <;> rfl

theorem view_roomList (env : Env) (s : State) (pub owned priv oper : List Nat) :
    view (roomList env s pub owned priv oper) = Spec.apply env (view s) (.roomList pub owned priv oper) := by
  refine state_ext (funext fun r => ?_) (funext fun u => ?_) ?_
  · show (AL.find r (roomList env s pub owned priv oper).rooms).map roomView = _
    simp only [roomList, Spec.apply]
    rw [AL.find_map, find_passes (fun x => { x with owner := some env.me })
      (fun x => { x with members := sadd env.me x.members }) (fun x => { x with operators := sadd env.me x.operators })
      (fun _ => rfl) (fun _ => by simp only [sadd_sadd]) (fun _ => by simp only [sadd_sadd])]
    cases pub.contains r || priv.contains r || owned.contains r
    · rfl
    · show some _ = some _
      -- `roomView_eq` also inside the `Decidable` instance of the specification's test on the owner
      rw [view_room_getD, roomView_eq (s.getRoom r _)]
      generalize s.getRoom r _ = x
      dsimp only
      -- each role is set by its pass if the room is listed for it and withdrawn by the last pass if not
      cases owned.contains r <;> cases priv.contains r <;> cases oper.contains r <;>
        simp only [Bool.false_eq_true, ↓reduceIte, id_eq, Bool.not_false, Bool.not_true, Bool.true_and, Bool.and_true,
          BEq.rfl, beq_iff_eq, roomView_eq, ofList_sadd, ofList_sdiscard]
  · simp only [view, State.getUser, State.newUser, roomList, Spec.apply, rest_withRoomFold]
  · simp only [view, roomList, Spec.apply, rest_withRoomFold]

def UsersNodup (s : State) : Prop := ∀ p ∈ s.rooms, p.2.users.Nodup

theorem inv_init : UsersNodup {} := fun _ h => nomatch h

theorem nodup_getRoom {s : State} (hs : UsersNodup s) (r : Nat) (p : Bool) : (s.getRoom r p).users.Nodup := by
  unfold State.getRoom
  cases h : AL.find r s.rooms with
  | none => exact List.nodup_nil
  | some x => exact hs _ (AL.mem_of_find h)

theorem inv_withRoom {s : State} (hs : UsersNodup s) (r : Nat) (p : Bool) (f : Room → Room)
    (hf : ∀ x, x.users.Nodup → (f x).users.Nodup) : UsersNodup (s.withRoom r p f) := by
  intro q hq
  rcases AL.mem_set hq with h | h
  · exact h ▸ hf _ (nodup_getRoom hs r p)
  · exact hs _ h

theorem inv_touchFold {α : Type} (k : α → Nat) (l : List α) {s : State} (hs : UsersNodup s) :
    UsersNodup (l.foldl (fun s a => s.touchUser (k a)) s) := by
  intro p hp
  rw [rooms_touchFold] at hp
  exact hs p hp

theorem inv_joinLoop (r : Nat) (es : List Entry) {s : State} (hs : UsersNodup s) :
    UsersNodup (es.foldl (joinStep r) s) :=
  List.foldlRecOn es _ hs fun s hs e _ =>
    inv_withRoom (s := s.withUser e.name _) hs _ _ _ fun x h => nodup_addUser x e.name h

theorem inv_withRoomFold (l : List Nat) (p : Bool) (f : Room → Room) (hf : ∀ x, x.users.Nodup → (f x).users.Nodup)
    {s : State} (hs : UsersNodup s) : UsersNodup (l.foldl (fun s r => s.withRoom r p f) s) :=
  List.foldlRecOn l _ hs fun _ hs a _ => inv_withRoom hs a p f hf

theorem inv_roomList (env : Env) {s : State} (hs : UsersNodup s) (pub owned priv oper : List Nat) :
    UsersNodup (roomList env s pub owned priv oper) := by
  intro q hq
  simp only [roomList, List.mem_map, List.mem_filter] at hq
  obtain ⟨q0, ⟨hq0, _⟩, rfl⟩ := hq
  refine inv_withRoomFold oper true _ ?_ (inv_withRoomFold priv true _ ?_
    (inv_withRoomFold owned true _ ?_ (inv_withRoomFold pub false id ?_ hs))) q0 hq0
  all_goals exact fun _ h => h

theorem inv_ite {c : Prop} [Decidable c] {a b : Out} (ha : UsersNodup a.st) (hb : UsersNodup b.st) :
    UsersNodup (if c then a else b).st := by
  split
  · exact ha
  · exact hb

/-- Whatever arrives (malformed notifications included).  A `User` object more or less (`touchUser`, `withUser`)
leaves the rooms alone, so for those states `hs` itself is the proof. -/
theorem inv_handle (env : Env) (s : State) (hs : UsersNodup s) (m : Msg) : UsersNodup (handle env s m).st := by
  cases m with dsimp only [handle]
  | roomChat r u t => exact inv_ite hs (inv_withRoom (s := s.touchUser u) hs _ _ _ fun _ h => h)
  | publicChat r u t => exact inv_ite hs (inv_withRoom hs r false id fun _ h => h)
  | userJoined r u st k a b =>
    exact inv_ite hs (inv_withRoom (s := s.withUser u _) hs _ _ _ fun x h => nodup_addUser x u h)
  | userLeft r u => exact inv_withRoom (s := s.touchUser u) hs r false (·.removeUser u) fun _ h => h.erase u
  | joinRoom r es o ops =>
    have h := inv_joinLoop r (es.takeWhile fun e => validStatus e.status)
      (inv_withRoom hs r false (fun x => { x with joined := true, priv := o.isSome, users := [] }) fun _ _ => List.nodup_nil)
    split
    · exact h
    · apply inv_withRoom h
      exact fun _ h => h
  | leaveRoom r => exact inv_withRoom hs _ _ _ fun _ _ => List.nodup_nil
  | tickers r ts =>
    apply inv_withRoom (inv_touchFold Prod.fst ts hs)
    exact fun _ h => h
  | members r us | operators r us =>
    apply inv_touchFold id us
    apply inv_withRoom hs
    exact fun _ h => h
  | tickerAdded r u t | tickerRemoved r u | grantMembership r u | membershipGranted r | revokeMembership r u
  | membershipRevoked r | operatorGranted r | operatorRevoked r =>
    apply inv_withRoom (s := (s.withRoom r _ id).touchUser _) (inv_withRoom hs _ _ id fun _ h => h)
    exact fun _ h => h
  | grantOperator r u | revokeOperator r u =>
    apply inv_withRoom (s := s.touchUser u) hs
    exact fun _ h => h
  | roomList pub owned priv oper => exact inv_roomList env (s := s.touchUser env.me) hs _ _ _ _
  | privilegedUsers us => exact inv_touchFold id us (s := { s with users := _, privSet := _ }) hs
  | toggleInvites _ | admin _ | kicked | checkPrivileges _ | addPrivileged _ | userStats _ _ | peerSearch _ _ _ _ =>
    exact hs
  | privateChat _ _ _ _ _ | userStatus _ _ _ => exact inv_ite hs hs
  | addUser u ex st k c =>
    refine inv_ite hs ?_
    cases st with
    | none => exact hs
    | some v => exact inv_ite hs hs
  | peerInfo c d pic a b f pm =>
    cases c with
    | none => exact hs
    | some u =>
      cases pm with
      | none => exact hs
      | some p => exact inv_ite hs hs

theorem inv_foldl (env : Env) (msgs : List Msg) {s : State} (hs : UsersNodup s) :
    UsersNodup (msgs.foldl (fun s m => (handle env s m).st) s) :=
  List.foldlRecOn msgs _ hs fun s hs m _ => inv_handle env s hs m

theorem inv_run (env : Env) (msgs : List Msg) : UsersNodup (run env msgs) := inv_foldl env msgs inv_init

theorem handle_view (env : Env) (s : State) (hs : UsersNodup s) (m : Msg) (hm : m.WF = true) :
    view (handle env s m).st = Spec.apply env (view s) m := by
  cases m with dsimp only [handle, Spec.apply]
  | roomChat r u t =>
    split
    · rfl
    · exact view_withRoom (view_touchUser s u) _ _ _ _ rfl
  | publicChat r u t =>
    split
    · rfl
    · exact (view_touchUser _ u).trans (view_withRoom rfl _ _ _ _ rfl)
  | userJoined r u st k a b =>
    rw [show validStatus st = true from hm]
    refine view_withRoom (view_withUser s u _) _ _ _ _ ?_
    simp only [Room.addUser_eq, roomView_eq, ofList_sadd]
  | userLeft r u =>
    refine view_withRoom (view_touchUser s u) _ _ _ _ ?_
    simp only [Room.removeUser_eq _ u (nodup_getRoom (s := s.touchUser u) hs r false), roomView_eq, ofList_sdiscard]
  | joinRoom r es o ops =>
    simp only [takeWhile_all _ _ hm, List.drop_length]
    refine (view_withRoom rfl r false _ (fun x => { x with owner := o, operators := ofList ops }) rfl).trans ?_
    refine (view_joinLoop r _ es _).trans ?_
    rw [view_withRoom rfl r false _ (fun x => { x with joined := true, priv := o.isSome, users := fun _ => false }) rfl,
      touch_touch]
    simp only [foldl_ins, Bool.false_or]
    rfl
  | leaveRoom r => exact view_withRoom rfl _ _ _ _ rfl
  | tickers r ts =>
    refine view_withRoom (view_touchFold Prod.fst ts s) _ _ _ _ ?_
    simp only [roomView_eq, AL.find_foldl_set, AL.find, Option.or_none]
    rfl
  | tickerAdded r u t | tickerRemoved r u | grantMembership r u | membershipGranted r | revokeMembership r u
  | membershipRevoked r | operatorGranted r | operatorRevoked r =>
    exact (view_withRoom ((view_touchUser _ _).trans (view_withRoom rfl _ _ id id rfl)) _ _ _ _
      (by simp only [roomView_eq, ofList_sadd, ofList_sdiscard, AL.find_set, AL.find_erase])).trans
      (touch_id_touch ..)
  | members r us | operators r us => exact (view_touchFold id us _).trans (view_withRoom rfl _ _ _ _ rfl)
  | grantOperator r u | revokeOperator r u =>
    exact view_withRoom (view_touchUser s u) _ _ _ _ (by simp only [roomView_eq, ofList_sadd, ofList_sdiscard])
  | roomList pub owned priv oper =>
    exact (view_roomList env _ pub owned priv oper).trans
      (congrArg (Spec.apply env · (.roomList pub owned priv oper)) (view_touchUser s env.me))
  | privateChat a b u t d =>
    split
    · rfl
    · exact view_touchUser s u
  | checkPrivileges _ => rfl
  | privilegedUsers us =>
    refine (view_touchFold id us _).trans (state_ext rfl (funext fun u => ?_) rfl)
    simp only [view, State.getUser, State.newUser, AL.find_map]
    cases AL.find u s.users <;> simp
  | addPrivileged u =>
    -- the user also joins the privileged set: that only changes how a not yet created object of `u` would start
    -- (privileged, which the update sets anyway)
    refine (view_withUser _ u _).trans (state_ext rfl (funext fun v => ?_) rfl)
    simp only [Spec.State.upd, view, State.getUser, State.newUser]
    split
    · cases AL.find u s.users <;> rfl
    · next hv => simp only [List.mem_cons, hv, false_or]
  | addUser u ex st k c =>
    cases ex with
    | false => exact view_touchUser s u
    | true =>
      cases st with
      | none => cases hm
      | some v =>
        simp only [show validStatus v = true from hm, Bool.not_true, Bool.false_eq_true, if_false]
        exact view_withUser s u _
  | userStatus u st pv =>
    rw [show validStatus st = true from hm]
    exact view_withUser s u _
  | userStats u k | peerSearch u f a b => exact view_withUser s u _
  | peerInfo c d pic a b f pm =>
    cases c with
    | none => rfl
    | some u =>
      cases pm with
      | none => exact view_withUser s u _
      | some p =>
        simp only [show validPerms p = true from hm, Bool.not_true, Bool.false_eq_true, if_false]
        exact view_withUser s u _

theorem view_foldl (env : Env) (msgs : List Msg) (hwf : ∀ m ∈ msgs, m.WF = true) {s : State} (hs : UsersNodup s) :
    view (msgs.foldl (fun s m => (handle env s m).st) s) = msgs.foldl (Spec.apply env) (view s) :=
  (List.foldl_rel (r := fun s σ => UsersNodup s ∧ view s = σ) ⟨hs, rfl⟩ fun m hm s _ ⟨hs, e⟩ =>
    ⟨inv_handle env s hs m, e ▸ handle_view env s hs m (hwf m hm)⟩).2

theorem tags_handle (env : Env) (s : State) (m : Msg) :
    ((handle env s m).evs.filter (fun e => (tagOf e).kind != .ack)).map tagOf =
      bif blocked env m || !m.WF then [] else (announces m).toList := by
  cases m with dsimp only [handle, blocked, Msg.WF]
  | roomChat r u t | publicChat r u t => cases env.blockedRoom.contains u <;> rfl
  | privateChat i ts u t d => cases env.blockedPriv.contains u <;> rfl
  | userJoined r u st k a b => cases validStatus st <;> rfl
  | userStatus u st pv => cases validStatus st <;> rfl
  | addUser u ex st k c =>
    cases ex
    · rfl
    · cases st with
      | none => rfl
      | some v => dsimp only; cases validStatus v <;> rfl
  | peerInfo c d pic a b f pm =>
    cases pm with
    | none => cases c <;> rfl
    | some p => cases c <;> dsimp only <;> cases validPerms p <;> rfl
  | joinRoom r es o ops =>
    cases h : es.all fun e => validStatus e.status
    · obtain ⟨e, t, h'⟩ := drop_takeWhile_of_not_all _ _ h
      rw [h']; rfl
    · rw [takeWhile_all _ _ h, List.drop_length]; rfl
  | _ => rfl

end AioslskVerif.Rooms
