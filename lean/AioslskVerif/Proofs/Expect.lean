import AioslskVerif.Model.Expect
/-!
The completion loop of the fixed code never raises, so it is a `map` over the requests (`deliver_eq`); every other op
that touches a request rewrites one record and appends callbacks of that request (`State.upd`).  Hence the invariant
`Inv` is one predicate per record (`WInv`), kept by `State.upd` (`inv_upd`) whenever the record update keeps it
(`WInv.onW` for the ops, `WInv.run` for the callbacks).
-/
namespace AioslskVerif.Expect

theorem run_append (ops ops' : List Op) : run (ops ++ ops') = ops'.foldl step (run ops) := List.foldl_append

theorem run_snoc (ops : List Op) (op : Op) : run (ops ++ [op]) = step (run ops) op := List.foldl_append

theorem fieldOk_const (μ : Msg) (f : Nat) (c : Val) :
    fieldOk μ (f, .const c) = ((μ.attr f).getD .none == c) := rfl

theorem fieldOk_pred (μ : Msg) (f : Nat) (p : Val → Bool) :
    fieldOk μ (f, .pred p) = (match μ.attr f with | none => false | some v => p v) := rfl

theorem fieldsMatch_iff (μ : Msg) (fs : List (Nat × Exp)) :
    fieldsMatch μ fs = true ↔ ∀ fe ∈ fs, fieldOk μ fe = true := by
  induction fs with
  | nil => simp [fieldsMatch]
  | cons fe rest ih =>
    obtain ⟨f, e | p⟩ := fe
    all_goals rw [List.forall_mem_cons, ← ih]
    · simp [fieldsMatch, fieldOk_const]
    · simp only [fieldsMatch, fieldOk_pred]
      cases μ.attr f <;> simp

/-- what the completion loop of `on_message_received` for message `n` does to one request (`deliver_eq`) -/
def resolveW (μ : Msg) (n : Nat) (w : Waiter) : Waiter :=
  if hit μ w then { w with fut := .result n } else w

/-- the done-callbacks that loop schedules: those of the requests it completes -/
def cbsOf (μ : Msg) (off : Nat) (ws : List Waiter) : List Cb :=
  (ws.zipIdx off).flatMap fun x => if hit μ x.1 then doneCbs x.2 x.1 else []

theorem hit_iff {μ : Msg} {w : Waiter} :
    hit μ w = true ↔ w.listed = true ∧ w.fut = .pending ∧ w.m.matches μ = true := by
  cases hf : w.fut <;> simp [hit, hf, FStatus.done]

theorem deliver_eq (μ : Msg) (n : Nat) (off : Nat) (ws : List Waiter) :
    deliver μ n off ws = (ws.map (resolveW μ n), cbsOf μ off ws, false) := by
  induction ws generalizing off with
  | nil => rfl
  | cons w rest ih =>
    unfold deliver
    by_cases h : hit μ w = true
    · simp [h, (hit_iff.mp h).2.1, setResult, ih, resolveW, cbsOf]
    · simp [h, ih, resolveW, cbsOf]

theorem mem_cbsOf {μ : Msg} {c : Cb} {ws : List Waiter} :
    c ∈ cbsOf μ 0 ws ↔ ∃ j w, ws[j]? = some w ∧ hit μ w = true ∧ c ∈ doneCbs j w := by
  simp only [cbsOf, List.mem_flatMap, Prod.exists, List.mem_zipIdx_iff_getElem?]
  constructor
  · rintro ⟨w, j, hj, hc⟩
    by_cases hh : hit μ w = true
    · exact ⟨j, w, hj, hh, by simpa [hh] using hc⟩
    · simp [hh] at hc
  · rintro ⟨j, w, hj, hh, hc⟩
    exact ⟨w, j, hj, by simpa [hh] using hc⟩

def Op.aim : Op → Option Nat
  | .awaitF k | .timeout k | .cancelTask k | .cancelFut k | .sendFails k _ => some k
  | _ => none

/-- the branch of `step` for an op aimed at request `k`, as a function of the request's record -/
def Op.onW (k : Nat) (w : Waiter) : Op → Waiter × List Cb
  | .awaitF _ =>
    if w.started then (w, [])
    else match w.fut with
      | .pending => ({ w with started := true, awaiting := true }, [])
      | .result i => ({ w with started := true, out := .result i }, [])
      | .cancelled => ({ w with started := true, out := .cancelled }, [])
      | .failed => ({ w with started := true, out := .timeout }, [])
  | .timeout _ =>
    if w.awaiting && !w.expired then ({ (cancelW k w).1 with expired := true }, (cancelW k w).2) else (w, [])
  | .cancelTask _ =>
    if w.awaiting then ({ (cancelW k w).1 with cancelReq := true }, (cancelW k w).2) else (w, [])
  | .cancelFut _ => cancelW k w
  | .sendFails _ c =>
    if w.kind = .exec && !w.started then
      ({ (cancelW k w).1 with started := true, out := if c then .cancelled else .sendError }, (cancelW k w).2)
    else (w, [])
  | _ => (w, [])

def Cb.key : Cb → Nat
  | .remove k | .wake k => k

def Cb.run : Cb → Waiter → Waiter × List Cb
  | .remove _, w => ({ w with listed := false }, [])
  | .wake k, w => wakeW k w

def State.upd (s : State) (k : Nat) (f : Waiter → Waiter × List Cb) : State :=
  match s.ws[k]? with
  | none => s
  | some w => s.put k (f w)

theorem State.put_self {s : State} {k : Nat} {w : Waiter} (hk : s.ws[k]? = some w) : s.put k (w, []) = s := by
  obtain ⟨h, rfl⟩ := List.getElem?_eq_some_iff.mp hk
  simp [State.put]

theorem step_aimed {s : State} {op : Op} {k : Nat} (h : op.aim = some k) : step s op = s.upd k (op.onW k) := by
  unfold State.upd
  cases hk : s.ws[k]? with
  | none => cases op <;> cases h <;> simp only [step, hk]
  | some w =>
    have hs := (State.put_self hk).symm
    cases op with
    | awaitF j =>
      cases h
      simp only [step, hk, Op.onW]
      split
      · exact hs
      · cases w.fut <;> rfl
    | timeout j | cancelTask j | sendFails j c =>
      cases h
      simp only [step, hk, Op.onW]
      -- the guard holds and both sides are the same `put`, or it fails and nothing is put
      split
      · rfl
      · exact hs
    | cancelFut j => cases h; simp only [step, hk, Op.onW]
    | _ => cases h

theorem step_cb (s : State) :
    step s .cb = match s.cbq with
      | [] => s
      | c :: q => ({ s with cbq := q } : State).upd c.key c.run := by
  unfold State.upd
  cases hq : s.cbq with
  | nil => simp [step, hq]
  | cons c q =>
    obtain k | k := c <;> simp only [step, hq, Cb.key, Cb.run] <;> cases s.ws[k]? <;> simp [State.put]

theorem upd_get {s : State} {j k : Nat} {w : Waiter} (f : Waiter → Waiter × List Cb) (hk : s.ws[k]? = some w) :
    (s.upd j f).ws[k]? = some (if j = k then (f w).1 else w) := by
  unfold State.upd
  by_cases hjk : j = k
  · subst hjk
    obtain ⟨h, rfl⟩ := List.getElem?_eq_some_iff.mp hk
    simp [State.put, h]
  · cases hj : s.ws[j]? <;> simp [State.put, hjk, hk]

theorem upd_get_none {s : State} {j k : Nat} (f : Waiter → Waiter × List Cb) (hk : s.ws[k]? = none) :
    (s.upd j f).ws[k]? = none := by
  unfold State.upd
  cases hj : s.ws[j]? <;> simp_all [State.put]

theorem upd_hs (s : State) (k : Nat) (f : Waiter → Waiter × List Cb) : (s.upd k f).hs = s.hs := by
  unfold State.upd; cases s.ws[k]? <;> rfl

theorem cancelW_cases (k : Nat) (w : Waiter) :
    (w.fut = .pending ∧ cancelW k w = ({ w with fut := .cancelled }, doneCbs k w)) ∨
    (w.fut ≠ .pending ∧ cancelW k w = (w, [])) := by
  unfold cancelW
  cases h : w.fut <;> simp

theorem cancelW_fst (k : Nat) (w : Waiter) : ∃ f, f ≠ .pending ∧ (cancelW k w).1 = { w with fut := f } := by
  rcases cancelW_cases k w with ⟨_, hc⟩ | ⟨hp, hc⟩ <;> rw [hc]
  · exact ⟨.cancelled, by simp, rfl⟩
  · exact ⟨w.fut, hp, rfl⟩

theorem doneCbs_key {k : Nat} {w : Waiter} {c : Cb} (h : c ∈ doneCbs k w) : c.key = k := by
  unfold doneCbs at h
  split at h <;> simp at h <;> rcases h with rfl | rfl <;> rfl

theorem step_finish {s : State} {h : Nat} {hd : Handling} (hh : s.hs[h]? = some hd) (hdn : hd.done = false) :
    step s (.finish h) = { s with ws := s.ws.map (resolveW hd.μ h), cbq := s.cbq ++ cbsOf hd.μ 0 s.ws,
                                  hs := s.hs.set h { hd with done := true } } := by
  simp [step, hh, hdn, deliver_eq]

theorem step_finish_cases (s : State) (h : Nat) :
    step s (.finish h) = s ∨ ∃ hd, s.hs[h]? = some hd ∧ hd.done = false := by
  cases hh : s.hs[h]? with
  | none => exact .inl (by simp [step, hh])
  | some hd =>
    cases hdn : hd.done with
    | true => exact .inl (by simp [step, hh, hdn])
    | false => exact .inr ⟨hd, rfl, hdn⟩

/-- The part of the invariant that speaks of request `k`, `q` being the queue of scheduled callbacks: the
done-callbacks of a done future stay queued until they have run (`removeQ`, `wakeQ`), nothing else queues a removal
(`removeDone`), and the caller's flags and answer agree with the future. -/
structure WInv (q : List Cb) (k : Nat) (w : Waiter) : Prop where
  listed : w.fut = .pending → w.listed = true
  removeQ : w.listed = true → w.fut ≠ .pending → Cb.remove k ∈ q
  wakeQ : w.awaiting = true → w.fut ≠ .pending → Cb.wake k ∈ q
  expired : w.expired = true → w.fut ≠ .pending ∧ w.started = true
  waiting : w.started = true → w.out = .none → w.awaiting = true
  answered : w.out ≠ .none → w.started = true ∧ w.awaiting = false
  started : w.awaiting = true → w.started = true
  timeout : w.expired = true → w.cancelReq = false → w.out = .none ∨ w.out = .timeout
  valid : w.out ≠ .invalidState
  gone : w.out ≠ .none → w.fut ≠ .pending
  cancelReq : w.cancelReq = true → w.fut ≠ .pending
  removeDone : Cb.remove k ∈ q → w.fut ≠ .pending

-- `grind` takes a hypothesis `WInv q k w` apart and proves a goal `WInv q k w` field by field
attribute [grind cases] WInv
attribute [grind intro] WInv

structure Inv (s : State) : Prop where
  w : ∀ k w, s.ws[k]? = some w → WInv s.cbq k w
  q : ∀ c ∈ s.cbq, c.key < s.ws.length
  e : s.err = 0

theorem WInv.mono {q q' : List Cb} {k : Nat} {w : Waiter} (h : WInv q k w)
    (hr : Cb.remove k ∈ q' ↔ Cb.remove k ∈ q) (hw : Cb.wake k ∈ q → Cb.wake k ∈ q') : WInv q' k w :=
  { h with
    removeQ := fun a b => hr.mpr (h.removeQ a b)
    wakeQ := fun a b => hw (h.wakeQ a b)
    removeDone := fun a => h.removeDone (hr.mp a) }

theorem WInv.complete {q q' : List Cb} {k : Nat} {w : Waiter} {f : FStatus} (h : WInv q k w) (hf : f ≠ .pending)
    (hr : Cb.remove k ∈ q') (hw : w.awaiting = true → Cb.wake k ∈ q') : WInv q' k { w with fut := f } :=
  { h with
    listed := fun hp => absurd hp hf
    removeQ := fun _ _ => hr
    wakeQ := fun ha _ => hw ha
    expired := fun he => ⟨hf, (h.expired he).2⟩
    gone := fun _ => hf
    cancelReq := fun _ => hf
    removeDone := fun _ => hf }

theorem WInv.unstarted {q : List Cb} {k : Nat} {w : Waiter} (h : WInv q k w) (hs : ¬ w.started = true) :
    w.awaiting = false ∧ w.expired = false ∧ w.out = .none :=
  ⟨Bool.eq_false_iff.mpr fun ha => hs (h.started ha), Bool.eq_false_iff.mpr fun he => hs (h.expired he).2,
   Classical.byContradiction fun ho => hs (h.answered ho).1⟩

/-- what `inv_upd` asks of an update `r` of request `k`: `WInv` holds again, only callbacks of `k` are scheduled -/
def Sound (q : List Cb) (k : Nat) (r : Waiter × List Cb) : Prop :=
  WInv (q ++ r.2) k r.1 ∧ ∀ c ∈ r.2, c.key = k

theorem WInv.same {q : List Cb} {k : Nat} {w : Waiter} (h : WInv q k w) : Sound q k (w, []) :=
  ⟨by rwa [List.append_nil], nofun⟩

/-- `q` in place of `s.cbq`: the callback of `k` that is being run has been taken off the queue -/
theorem inv_upd {s : State} (hi : Inv s) {q : List Cb} {k : Nat} {f : Waiter → Waiter × List Cb}
    (hsub : ∀ c ∈ q, c ∈ s.cbq) (hq : ∀ c ∈ s.cbq, c.key ≠ k → c ∈ q)
    (hf : ∀ w, WInv s.cbq k w → Sound q k (f w)) :
    Inv (({ s with cbq := q } : State).upd k f) := by
  cases hk : s.ws[k]? with
  | none =>
    rw [show State.upd _ k f = { s with cbq := q } by simp [State.upd, hk]]
    refine ⟨fun j wj hj => ?_, fun c hc => hi.q c (hsub c hc), hi.e⟩
    have hjk : j ≠ k := fun h => by simp [h, hk] at hj
    exact (hi.w j wj hj).mono ⟨hsub _, fun h => hq _ h hjk⟩ fun h => hq _ h hjk
  | some w =>
    obtain ⟨hw, hown⟩ := hf w (hi.w k w hk)
    have hlt := (List.getElem?_eq_some_iff.mp hk).1
    rw [show State.upd _ k f = { s with ws := s.ws.set k (f w).1, cbq := q ++ (f w).2 } by
      simp [State.upd, hk, State.put]]
    refine ⟨fun j wj hj => ?_, fun c hc => ?_, hi.e⟩
    · simp only [List.getElem?_set] at hj
      split at hj
      · subst j
        cases hj
        exact hw
      next hkj =>
        -- the callbacks of another request `j` in the queue are what they were
        have hin : ∀ c : Cb, c.key = j → (c ∈ q ++ (f w).2 ↔ c ∈ s.cbq) := fun c hc =>
          ⟨fun h => (List.mem_append.mp h).elim (hsub c) fun h => absurd ((hown c h).symm.trans hc) hkj,
           fun h => List.mem_append_left _ (hq c h (hc ▸ Ne.symm hkj))⟩
        exact (hi.w j wj hj).mono (hin _ rfl) (hin _ rfl).mpr
    · simp only [List.length_set]
      exact (List.mem_append.mp hc).elim (fun h => hi.q c (hsub c h)) fun h => hown c h ▸ hlt

theorem WInv.cancel {q : List Cb} {k : Nat} {w : Waiter} (h : WInv q k w) : Sound q k (cancelW k w) := by
  rcases cancelW_cases k w with ⟨_, hc⟩ | ⟨_, hc⟩ <;> rw [hc]
  · exact ⟨h.complete nofun (by simp [doneCbs]) fun ha => by simp [doneCbs, ha], fun _ => doneCbs_key⟩
  · exact h.same

theorem WInv.onW {q : List Cb} {k : Nat} {w : Waiter} (h : WInv q k w) (op : Op) : Sound q k (op.onW k w) := by
  have hc := h.cancel
  obtain ⟨f, hf, hx⟩ := cancelW_fst k w
  cases op <;> simp only [Op.onW]
  case awaitF =>
    split
    · exact h.same
    · -- a caller that starts has no flag set and no answer yet (`unstarted`), so what this step gives it, `awaiting`
      -- on a pending future or the answer that goes with a done one, is all that the clauses about it speak of
      have := h.unstarted ‹_›
      exact ⟨by split <;> grind, by split <;> nofun⟩
  case cancelFut => exact hc
  case timeout | cancelTask | sendFails =>
    -- `hc`: the future is done (`hf`) and its callbacks are queued, which is all that `expired := true` and
    -- `cancelReq := true` ask for.  The rest is the guard: a caller that is awaiting has started and has no answer
    -- (`started`, `answered`); one that has not started is not awaiting and has not timed out.
    split
    · refine ⟨?_, hc.2⟩
      have hc := hc.1
      rw [hx] at hc ⊢
      grind
    · exact h.same
  all_goals exact h.same

/-- what the caller gets when it resumes with its future done -/
def answer (w : Waiter) : Outcome :=
  if w.cancelReq then .cancelled else if w.expired then .timeout else
  match w.fut with
  | .result i => .result i
  | .cancelled => .cancelled
  | _ => .timeout

theorem answer_spec (w : Waiter) : answer w ≠ .none ∧ answer w ≠ .invalidState ∧
    (w.expired = true → w.cancelReq = false → answer w = .timeout) := by
  unfold answer; repeat' split
  all_goals simp_all

/-- in a reachable state the wake-up of the awaiting task schedules nothing and cannot fail: a request whose caller
has timed out or been cancelled is not pending any more -/
theorem WInv.wakeW_eq {q : List Cb} {k : Nat} {w : Waiter} (h : WInv q k w) :
    wakeW k w =
      (if w.awaiting = true ∧ w.fut ≠ .pending then { w with awaiting := false, out := answer w } else w, []) := by
  by_cases hg : w.awaiting = true ∧ w.fut ≠ .pending
  · obtain ⟨ha, hp⟩ := hg
    have hd : w.fut.done = true := by cases hf : w.fut <;> simp_all [FStatus.done]
    rw [if_pos ⟨ha, hp⟩]
    unfold wakeW answer
    simp only [ha, hd]
    by_cases hc : w.cancelReq = true
    · simp [hc]
    · by_cases he : w.expired = true
      · simp only [hc, he]
        cases w.kind <;> rfl
      · simp only [hc, he]
        cases hf : w.fut <;> simp_all
  · rw [if_neg hg]
    by_cases ha : w.awaiting = true
    · have hp : w.fut = .pending := Classical.not_not.mp fun hp => hg ⟨ha, hp⟩
      have he : w.expired = false := Bool.eq_false_iff.mpr fun he => (h.expired he).1 hp
      have hc : w.cancelReq = false := Bool.eq_false_iff.mpr fun hc => h.cancelReq hc hp
      simp [wakeW, hp, he, hc]
    · simp [wakeW, ha]

theorem WInv.run {q : List Cb} {c : Cb} {w : Waiter} (h : WInv (c :: q) c.key w) : Sound q c.key (c.run w) := by
  cases c with
  | remove k =>
    -- a removal is queued for a done future only (`hd`), so `listed := false` breaks no clause; a wake-up
    -- queued for `k` behind it is still in `q`
    have hd := h.removeDone (List.mem_cons_self ..)
    exact ⟨by simp only [Cb.run, Cb.key] at h ⊢; grind, nofun⟩
  | wake k =>
    have := answer_spec w
    simp only [Cb.key] at h
    simp only [Sound, Cb.run, Cb.key, h.wakeW_eq, List.append_nil]
    -- a wake-up that finds its caller not awaiting or its future pending was not owed (`wakeQ`)
    exact ⟨by split <;> grind, nofun⟩

theorem inv_finish {s : State} (hi : Inv s) (h : Nat) : Inv (step s (.finish h)) := by
  rcases step_finish_cases s h with he | ⟨hd, hh, hdn⟩
  · rwa [he]
  rw [step_finish hh hdn]
  refine ⟨fun k w' hk => ?_, fun c hc => ?_, hi.e⟩
  · simp only [List.getElem?_map, Option.map_eq_some_iff] at hk
    obtain ⟨w, hw, rfl⟩ := hk
    have h0 := hi.w k w hw
    -- the callbacks the loop schedules are those of the requests it completes
    have hmem : ∀ c : Cb, c.key = k → (c ∈ cbsOf hd.μ 0 s.ws ↔ hit hd.μ w = true ∧ c ∈ doneCbs k w) := by
      intro c hc
      rw [mem_cbsOf]
      constructor
      · rintro ⟨j, w', hj, hh', hc'⟩
        obtain rfl : j = k := (doneCbs_key hc').symm.trans hc
        rw [hw] at hj; cases hj
        exact ⟨hh', hc'⟩
      · exact fun ⟨hh', hc'⟩ => ⟨k, w, hw, hh', hc'⟩
    have hr := hmem (.remove k) rfl
    have hk := hmem (.wake k) rfl
    simp only [resolveW]
    split
    next hh' =>
      exact h0.complete nofun (by simp [hr, hh', doneCbs]) fun ha => by simp [hk, hh', doneCbs, ha]
    next hh' =>
      exact h0.mono (by simp [hr, hh']) (fun x => List.mem_append_left _ x)
  · rw [List.length_map]
    rcases List.mem_append.mp hc with hc | hc
    · exact hi.q c hc
    · obtain ⟨j, w, hj, -, hc⟩ := mem_cbsOf.mp hc
      exact doneCbs_key hc ▸ (List.getElem?_eq_some_iff.mp hj).1

theorem inv_create {s : State} (hi : Inv s) (kd : Kind) (m : Matcher) : Inv (step s (.create kd m)) := by
  refine ⟨fun k w hk => ?_, fun c hc => ?_, hi.e⟩
  · simp only [step, List.getElem?_append, List.getElem?_singleton] at hk
    split at hk
    · exact hi.w k w hk
    next hlt =>
      split at hk <;> cases hk
      -- no callback of a request that does not exist yet is scheduled
      have : Cb.remove k ∉ s.cbq := fun h => hlt (hi.q _ h)
      constructor <;> simp [step, this]
  · simp only [step, List.length_append]
    exact Nat.lt_add_right _ (hi.q c hc)

theorem inv_step {s : State} (hi : Inv s) (op : Op) : Inv (step s op) := by
  cases haim : op.aim with
  | some k =>
    rw [step_aimed haim]
    exact inv_upd hi (fun _ h => h) (fun _ h _ => h) fun _ hw => hw.onW op
  | none =>
    cases op with
    | create kd m => exact inv_create hi kd m
    | finish h => exact inv_finish hi h
    | cb =>
      rw [step_cb]
      split
      · exact hi
      next c q hq =>
        refine inv_upd hi (fun _ h => hq ▸ List.mem_cons_of_mem c h) (fun c' hc' hk => ?_) fun _ hw => (hq ▸ hw).run
        exact (List.mem_cons.mp (hq ▸ hc')).resolve_left fun h => hk (h ▸ rfl)
    | arrive | connState => exact ⟨hi.w, hi.q, hi.e⟩
    | _ => cases haim

theorem inv_foldl {s : State} (hi : Inv s) (ops : List Op) : Inv (ops.foldl step s) :=
  List.foldlRecOn ops step hi fun _ h op _ => inv_step h op

theorem inv_run (ops : List Op) : Inv (run ops) := inv_foldl ⟨by simp, by simp, rfl⟩ ops

/-- every way in which one step changes the record of request `k` (`step_get`) -/
inductive Moved (s : State) (op : Op) (k : Nat) (w : Waiter) : Waiter → Prop
  /-- not at all -/
  | same : Moved s op k w w
  /-- the completion loop for message `h` completes it -/
  | hit (h : Nat) (hd : Handling) : op = .finish h → s.hs[h]? = some hd → hd.done = false → hit hd.μ w = true →
      Moved s op k w { w with fut := .result h }
  /-- the op is aimed at `k` -/
  | aimed : op.aim = some k → Moved s op k w (op.onW k w).1
  /-- the loop runs a scheduled callback of `k` -/
  | cb (c : Cb) (q : List Cb) : op = .cb → s.cbq = c :: q → c.key = k → Moved s op k w (c.run w).1

theorem step_get {s : State} (op : Op) {k : Nat} {w : Waiter} (hk : s.ws[k]? = some w) :
    ∃ w', (step s op).ws[k]? = some w' ∧ Moved s op k w w' := by
  cases haim : op.aim with
  | some j =>
    rw [step_aimed haim, upd_get _ hk]
    refine ⟨_, rfl, ?_⟩
    split
    · subst j; exact .aimed haim
    · exact .same
  | none =>
    cases op with
    | create kd m => exact ⟨w, (List.getElem?_append_left (List.getElem?_eq_some_iff.mp hk).1).trans hk, .same⟩
    | finish h =>
      rcases step_finish_cases s h with he | ⟨hd, hh, hdn⟩
      · exact ⟨w, by rwa [he], .same⟩
      · refine ⟨resolveW hd.μ h w, by simp [step_finish hh hdn, hk], ?_⟩
        unfold resolveW
        split
        · exact .hit h hd rfl hh hdn ‹_›
        · exact .same
    | cb =>
      rw [step_cb]
      split
      · exact ⟨w, hk, .same⟩
      next c q hq =>
        rw [upd_get (s := { s with cbq := q }) _ hk]
        refine ⟨_, rfl, ?_⟩
        split
        · exact .cb c q rfl hq ‹_›
        · exact .same
    | arrive | connState => exact ⟨w, hk, .same⟩
    | _ => cases haim

theorem step_new {s : State} (op : Op) {k : Nat} {w' : Waiter} (hn : s.ws[k]? = none)
    (hk : (step s op).ws[k]? = some w') : w'.fut = .pending := by
  cases haim : op.aim with
  | some j => rw [step_aimed haim, upd_get_none _ hn] at hk; cases hk
  | none =>
    cases op with
    | create kd m =>
      simp only [step] at hk
      rw [List.getElem?_append_right (List.getElem?_eq_none_iff.mp hn), List.getElem?_singleton] at hk
      split at hk <;> cases hk
      rfl
    | finish h =>
      rcases step_finish_cases s h with he | ⟨hd, hh, hdn⟩
      · rw [he, hn] at hk; cases hk
      · simp [step_finish hh hdn, hn] at hk
    | cb =>
      rw [step_cb] at hk
      split at hk
      · rw [hn] at hk; cases hk
      next c q _ =>
        rw [upd_get_none (s := { s with cbq := q }) _ hn] at hk; cases hk
    | arrive | connState => rw [show (step s _).ws = s.ws from rfl, hn] at hk; cases hk
    | _ => cases haim

/-- the first completion wins: a future that is done and an answer the caller has got stay (`step_stable`) -/
def Stable (w x : Waiter) : Prop :=
  x.m = w.m ∧ (w.fut ≠ .pending → x.fut = w.fut) ∧ (w.out ≠ .none → x.out = w.out)

theorem Stable.trans {w x y : Waiter} (h1 : Stable w x) (h2 : Stable x y) : Stable w y := by
  unfold Stable at *
  grind

/-- One step keeps request `k` `Stable`; and a `result` its future did not have before is the message of a `finish`
that hit it (the alternative that `first_match_foldl` reads). -/
theorem step_stable {s : State} (hi : Inv s) (op : Op) {k : Nat} {w : Waiter} (hk : s.ws[k]? = some w) :
    ∃ w', (step s op).ws[k]? = some w' ∧ Stable w w' ∧
      ((∀ i, w'.fut = .result i → w.fut = .result i) ∨
       ∃ h hd, op = .finish h ∧ s.hs[h]? = some hd ∧ hd.done = false ∧ hit hd.μ w = true ∧ w'.fut = .result h) := by
  obtain ⟨w', hk', h⟩ := step_get op hk
  refine ⟨w', hk', ?_⟩
  have h0 := hi.w k w hk
  have same : Stable w w ∧ ∀ i, w.fut = .result i → w.fut = .result i :=
    ⟨⟨rfl, fun _ => rfl, fun _ => rfl⟩, fun _ h => h⟩
  rcases h with _ | ⟨h, hd, rfl, hh, hdn, hhit⟩ | - | ⟨c, q, rfl, hq, rfl⟩
  · exact ⟨same.1, .inl same.2⟩
  · exact ⟨⟨rfl, fun hp => absurd (hit_iff.mp hhit).2.1 hp, fun _ => rfl⟩, .inr ⟨h, hd, rfl, hh, hdn, hhit, rfl⟩⟩
  · suffices h : Stable w (op.onW k w).1 ∧ ∀ i, (op.onW k w).1.fut = .result i → w.fut = .result i from
      ⟨h.1, .inl h.2⟩
    have hc : Stable w (cancelW k w).1 ∧ ∀ i, (cancelW k w).1.fut = .result i → w.fut = .result i := by
      rcases cancelW_cases k w with ⟨hp, hc⟩ | ⟨hp, hc⟩ <;> simp [Stable, hc, hp]
    cases op <;> simp only [Op.onW]
    case cancelFut => exact hc
    case awaitF =>
      split
      · exact same
      · have := (h0.unstarted ‹_›).2.2
        split <;> simp [Stable, this]
    case sendFails =>
      split
      · have := (h0.unstarted (by simp_all)).2.2
        exact ⟨⟨hc.1.1, hc.1.2.1, fun ho => absurd this ho⟩, hc.2⟩
      · exact same
    case timeout | cancelTask =>
      split
      · exact hc
      · exact same
    all_goals exact same
  · suffices h : Stable w (c.run w).1 ∧ ∀ i, (c.run w).1.fut = .result i → w.fut = .result i from
      ⟨h.1, .inl h.2⟩
    cases c with
    | remove k => exact same
    | wake k =>
      have h0 : WInv (.wake k :: q) k w := hq ▸ h0
      simp only [Cb.run, h0.wakeW_eq]
      split
      · exact ⟨⟨rfl, fun _ => rfl, fun ho => absurd (h0.answered ho).2 (by simp_all)⟩, fun _ h => h⟩
      · exact same

theorem stable_foldl {s : State} (hi : Inv s) (ops : List Op) {k : Nat} {w : Waiter} (hk : s.ws[k]? = some w) :
    ∃ w', (ops.foldl step s).ws[k]? = some w' ∧ Stable w w' :=
  (List.foldlRecOn ops step (motive := fun t => Inv t ∧ ∃ w', t.ws[k]? = some w' ∧ Stable w w')
    ⟨hi, w, hk, rfl, fun _ => rfl, fun _ => rfl⟩
    fun _ ⟨hi, _, hk1, h1⟩ op _ =>
      let ⟨w2, hk2, h2, _⟩ := step_stable hi op hk1
      ⟨inv_step hi op, w2, hk2, h1.trans h2⟩).2

theorem foldl_first {σ α : Type} (f : σ → α → σ) (P : σ → Prop) : ∀ (l : List α) (s : σ), ¬ P s → P (l.foldl f s) →
    ∃ pre x post, l = pre ++ x :: post ∧ ¬ P (pre.foldl f s) ∧ P (f (pre.foldl f s) x)
  | [], _, h0, h1 => absurd h1 h0
  | x :: l, s, h0, h1 => by
    by_cases hx : P (f s x)
    · exact ⟨[], x, l, rfl, h0, hx⟩
    · obtain ⟨pre, y, post, he, hp⟩ := foldl_first f P l (f s x) hx h1
      exact ⟨x :: pre, y, post, by rw [he]; rfl, hp⟩

theorem first_match_foldl {s : State} (hi : Inv s) (ops : List Op) {k i : Nat} {w : Waiter}
    (h0 : ∀ w0, s.ws[k]? = some w0 → w0.fut ≠ .result i)
    (hk : (ops.foldl step s).ws[k]? = some w) (hr : w.fut = .result i) :
    ∃ pre post hd w0, ops = pre ++ Op.finish i :: post ∧
      (pre.foldl step s).hs[i]? = some hd ∧ hd.done = false ∧
      (pre.foldl step s).ws[k]? = some w0 ∧ w0.fut = .pending ∧ w0.listed = true ∧ w0.m.matches hd.μ = true := by
  obtain ⟨pre, op, post, he, hn, w1, hk1, hr1⟩ :=
    foldl_first step (fun t => ∃ w, t.ws[k]? = some w ∧ w.fut = .result i) ops s (fun ⟨w0, h, hr⟩ => h0 w0 h hr) ⟨w, hk, hr⟩
  cases hk0 : (pre.foldl step s).ws[k]? with
  | none => rw [step_new op hk0 hk1] at hr1; cases hr1
  | some w0 =>
    obtain ⟨w1', hk1', -, h | ⟨h, hd, rfl, hh, hdn, hhit, hr1'⟩⟩ := step_stable (inv_foldl hi pre) op hk0
    · rw [hk1] at hk1'; cases hk1'
      exact absurd ⟨w0, hk0, h i hr1⟩ hn
    · rw [hk1] at hk1'; cases hk1'
      rw [hr1] at hr1'; cases hr1'
      obtain ⟨hl, hp, hm⟩ := hit_iff.mp hhit
      exact ⟨pre, post, hd, w0, he, hh, hdn, hk0, hp, hl, hm⟩

theorem step_hs_same (s : State) (op : Op) :
    (step s op).hs = s.hs ∨ (∃ c μ, op = .arrive c μ) ∨ ∃ h, op = .finish h := by
  cases haim : op.aim with
  | some k => rw [step_aimed haim, upd_hs]; exact .inl rfl
  | none =>
    cases op with
    | cb => rw [step_cb]; split; exact .inl rfl; exact .inl (upd_hs ..)
    | arrive c μ => exact .inr (.inl ⟨c, μ, rfl⟩)
    | finish h => exact .inr (.inr ⟨h, rfl⟩)
    | create | connState => exact .inl rfl
    | _ => cases haim

theorem step_hs {s : State} (op : Op) {h : Nat} {hd : Handling} (hh : s.hs[h]? = some hd) :
    ∃ hd', (step s op).hs[h]? = some hd' ∧ hd'.μ = hd.μ ∧ hd'.c = hd.c := by
  have hlt := (List.getElem?_eq_some_iff.mp hh).1
  rcases step_hs_same s op with he | ⟨c, μ, rfl⟩ | ⟨j, rfl⟩
  · exact ⟨hd, by rwa [he], rfl, rfl⟩
  · exact ⟨hd, (List.getElem?_append_left hlt).trans hh, rfl, rfl⟩
  · rcases step_finish_cases s j with he | ⟨hdj, hj, hdn⟩
    · exact ⟨hd, by rwa [he], rfl, rfl⟩
    · simp only [step_finish hj hdn, List.getElem?_set]
      split
      · subst j
        rw [hh] at hj; cases hj
        exact ⟨{ hd with done := true }, by simp [hlt], rfl, rfl⟩
      · exact ⟨hd, hh, rfl, rfl⟩

theorem step_hs_new {s : State} (op : Op) {h : Nat} {hd : Handling} (hn : s.hs[h]? = none)
    (hh : (step s op).hs[h]? = some hd) : ∃ c μ, op = .arrive c μ ∧ h = s.hs.length ∧ hd = { μ := μ, c := c } := by
  have hge := List.getElem?_eq_none_iff.mp hn
  rcases step_hs_same s op with he | ⟨c, μ, rfl⟩ | ⟨j, rfl⟩
  · rw [he, hn] at hh; cases hh
  · simp only [step] at hh
    rw [List.getElem?_append_right hge, List.getElem?_singleton] at hh
    split at hh <;> cases hh
    exact ⟨c, μ, rfl, by omega, rfl⟩
  · rcases step_finish_cases s j with he | ⟨_, hj, hdn⟩
    · rw [he, hn] at hh; cases hh
    · simp [step_finish hj hdn, hge] at hh

theorem arrival_foldl (ops : List Op) (s : State) (h : Nat) (hd : Handling) (hn : s.hs[h]? = none)
    (hh : (ops.foldl step s).hs[h]? = some hd) :
    ∃ pre post, ops = pre ++ Op.arrive hd.c hd.μ :: post ∧ (pre.foldl step s).hs.length = h := by
  obtain ⟨pre, op, post, he, hn', x, hx, hμ, hc⟩ :=
    foldl_first step (fun t => ∃ x, t.hs[h]? = some x ∧ x.μ = hd.μ ∧ x.c = hd.c) ops s (by simp [hn]) ⟨hd, hh, rfl, rfl⟩
  cases h0 : (pre.foldl step s).hs[h]? with
  | some x0 =>
    obtain ⟨x', hx', hμ', hc'⟩ := step_hs op h0
    rw [hx] at hx'; cases hx'
    exact absurd ⟨x0, h0, hμ'.symm.trans hμ, hc'.symm.trans hc⟩ hn'
  | none =>
    obtain ⟨c, μ, rfl, rfl, rfl⟩ := step_hs_new op h0 hx
    exact ⟨pre, post, by rw [he, ← hμ, ← hc], rfl⟩

theorem nested_step (s : State) (kd : Kind) (m : Matcher) (c : Nat) (μ : Msg) (hm : m.matches μ = true) :
    (∃ w, ([.create kd m, .awaitF s.ws.length, .arrive c μ, .finish s.hs.length].foldl step s).ws[s.ws.length]?
        = some w ∧ w.fut = .result s.hs.length) ∧
    (∀ (h0 : Nat) (hd : Handling), s.hs[h0]? = some hd →
      ([.create kd m, .awaitF s.ws.length, .arrive c μ, .finish s.hs.length].foldl step s).hs[h0]? = some hd) := by
  let w0 : Waiter := { m := m, kind := kd, started := true, awaiting := true }
  have h3 : [.create kd m, .awaitF s.ws.length, .arrive c μ].foldl step s =
      { s with ws := s.ws ++ [w0], hs := s.hs ++ [{ μ := μ, c := c }] } := by
    simp [step, State.put, w0]
  have hhit : hit μ w0 = true := by simp [hit_iff, w0, hm]
  rw [show [.create kd m, .awaitF s.ws.length, .arrive c μ, .finish s.hs.length] =
    [.create kd m, .awaitF s.ws.length, .arrive c μ] ++ [Op.finish s.hs.length] from rfl, List.foldl_append, h3]
  simp only [List.foldl_cons, List.foldl_nil]
  rw [step_finish (hd := { μ := μ, c := c }) (by simp) rfl]
  constructor
  · exact ⟨resolveW μ s.hs.length w0, by simp, by simp [resolveW, hhit]⟩
  · intro h0 hd h0d
    have hlt : h0 < s.hs.length := (List.getElem?_eq_some_iff.mp h0d).1
    simp only [List.getElem?_set, if_neg (Nat.ne_of_gt hlt), List.getElem?_append_left hlt, h0d]

theorem cb_length {s : State} (hi : Inv s) : (step s .cb).cbq.length = s.cbq.length - 1 := by
  rw [step_cb]
  split
  · simp [*]
  next c q hq =>
    unfold State.upd
    cases hk : s.ws[c.key]? with
    | none => simp [hq]
    | some w =>
      have h0 : WInv (c :: q) c.key w := hq ▸ hi.w _ w hk
      cases c with
      | remove j => simp [hq, State.put, Cb.run]
      | wake j => simp [hq, State.put, Cb.run, WInv.wakeW_eq (k := j) h0]

theorem drain_foldl : ∀ (n : Nat) (s : State), Inv s → s.cbq.length = n →
    ((List.replicate n Op.cb).foldl step s).cbq = [] := by
  intro n
  induction n with
  | zero => intro s _ h; simpa using h
  | succ n ih =>
    intro s hi h
    rw [List.replicate_succ, List.foldl_cons]
    apply ih _ (inv_step hi _)
    rw [cb_length hi, h]; rfl

end AioslskVerif.Expect
