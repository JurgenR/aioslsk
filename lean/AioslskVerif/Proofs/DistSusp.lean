import AioslskVerif.Proofs.Dist
import AioslskVerif.Spec.DistLimits
/-! The invariant `XInv` of the small-step layer `Model/DistSusp.lean` (suspended sends to the server, failing child
writes) for every history, who can become a child, and the atomic model as the special case without suspensions — from
which its invariant (`run_inv`, also used by C14) is read off. -/
namespace AioslskVerif.Dist

/-- what the youngest suspended handler will do makes the children's knowledge right again: `tellAdv` reads the position
when it runs; `unsetTail _ me'` tells `(0, me')`, the position as long as there is no parent and the session is `me'`'s -/
def ContOK (d : DState) : Option Cont → Prop
  | none => ToldC d
  | some .tellAdv => True
  | some (.unsetTail _ me') => ∀ me, d.session = some me → me' = me ∧ d.parent = none

theorem contOK_nosession (d : DState) (o : Option Cont) (h : d.session = none) : ContOK d o :=
  match o with
  | none => fun me hm => by rw [h] at hm; cases hm
  | some .tellAdv => trivial
  | some (.unsetTail _ _) => fun me hm => by rw [h] at hm; cases hm

theorem ContOK.frame {d d' : DState} {o : Option Cont} (h : ContOK d o) (hs : d'.session = d.session)
    (hp : d'.parent = d.parent) (hc : o = none → ToldC d → ToldC d') : ContOK d' o :=
  match o with
  | none => hc rfl h
  | some .tellAdv => trivial
  | some (.unsetTail _ _) => fun me hm => hp ▸ h me (hs ▸ hm)

structure BInv (x : XState) : Prop where
  str : SInv x.d
  closingNP : ∀ c ∈ x.closing, x.d.parent ≠ some c
  closingFresh : ∀ c ∈ x.closing, c < x.d.nextConn
  closingNC : ∀ c ∈ x.closing, c ∉ x.d.children
  pendClosing : ∀ c me, Cont.unsetTail c me ∈ x.pend → c ∈ x.closing
  unblocked : x.srvBlocked = false → x.pend = []

structure XInv (x : XState) : Prop where
  binv : BInv x
  toldS : ToldS x.d
  pendOK : ContOK x.d x.pend.getLast?

theorem xinv_nosession (x : XState) (hb : BInv x) (h : x.d.session = none) : XInv x :=
  ⟨hb, fun me hm => (by rw [h] at hm; cases hm), contOK_nosession _ _ h⟩

/-- the tree state changes, the suspended handlers and closing connections stay: `BInv` asks of the closing ones only
that they are older than every new child and not the parent's -/
theorem BInv.frame {x : XState} {d' : DState} (hb : BInv x) (hs : SInv d')
    (hp : ∀ c, d'.parent = some c → x.d.parent = some c) (hn : x.d.nextConn ≤ d'.nextConn)
    (hc : ∀ c ∈ d'.children, c ∈ x.d.children ∨ x.d.nextConn ≤ c) :
    BInv { x with d := d' } := by
  refine ⟨hs, ?_, ?_, ?_, hb.pendClosing, hb.unblocked⟩
  · intro c hm h; exact hb.closingNP c hm (hp c h)
  · intro c hm; exact Nat.lt_of_lt_of_le (hb.closingFresh c hm) hn
  · intro c hm hm'
    rcases hc c hm' with h | h
    · exact hb.closingNC c hm h
    · exact Nat.lt_irrefl _ (Nat.lt_of_lt_of_le (hb.closingFresh c hm) h)

@[simp] theorem tell_parent (x : XState) (a : Adv) : (tell x a).d.parent = x.d.parent := rfl
@[simp] theorem tell_session (x : XState) (a : Adv) : (tell x a).d.session = x.d.session := rfl
@[simp] theorem tell_level (x : XState) (a : Adv) : (tell x a).d.level = x.d.level := rfl
@[simp] theorem tell_root (x : XState) (a : Adv) : (tell x a).d.root = x.d.root := rfl
@[simp] theorem tell_name (x : XState) (a : Adv) : (tell x a).d.name = x.d.name := rfl
@[simp] theorem tell_nextConn (x : XState) (a : Adv) : (tell x a).d.nextConn = x.d.nextConn := rfl
@[simp] theorem tell_toldServer (x : XState) (a : Adv) : (tell x a).d.toldServer = x.d.toldServer := rfl
@[simp] theorem tell_pend (x : XState) (a : Adv) : (tell x a).pend = x.pend := rfl
@[simp] theorem tell_closing (x : XState) (a : Adv) : (tell x a).closing = x.closing := rfl
@[simp] theorem tell_srvBlocked (x : XState) (a : Adv) : (tell x a).srvBlocked = x.srvBlocked := rfl
@[simp] theorem tell_armed (x : XState) (a : Adv) : (tell x a).armed = x.armed := rfl
theorem tell_children (x : XState) (a : Adv) :
    (tell x a).d.children = x.d.children.filter (fun c => decide (c ∉ x.armed)) := rfl
theorem tell_live (x : XState) (a : Adv) :
    (tell x a).d.live = x.d.live.filter (fun c => decide (¬ (c ∈ x.d.children ∧ c ∈ x.armed))) := rfl

theorem mem_tell_children {x : XState} {a : Adv} {c : ConnId} :
    c ∈ (tell x a).d.children ↔ c ∈ x.d.children ∧ c ∉ x.armed := by
  rw [tell_children]; simp [List.mem_filter]

theorem tell_children_sub (x : XState) (a : Adv) (c : ConnId) (h : c ∈ (tell x a).d.children) :
    c ∈ x.d.children := (mem_tell_children.1 h).1

@[simp] theorem tell_adv (x : XState) (a : Adv) (me : Name) : (tell x a).d.adv me = x.d.adv me :=
  adv_congr x.d _ me rfl (fun _ _ => ⟨rfl, rfl⟩)

theorem tell_told (x : XState) (a : Adv) (c : ConnId) (hc : c ∈ x.d.children) (ha : c ∉ x.armed) :
    (tell x a).d.toldL c = some a.level ∧ (tell x a).d.toldR c = some a.root := by
  have h : c ∈ x.d.children ∧ c ∉ x.armed := ⟨hc, ha⟩
  constructor
  · show (if c ∈ x.d.children ∧ c ∉ x.armed then some a.level else x.d.toldL c) = some a.level
    rw [if_pos h]
  · show (if c ∈ x.d.children ∧ c ∉ x.armed then some a.root else x.d.toldR c) = some a.root
    rw [if_pos h]

theorem tell_toldOK (x : XState) (a : Adv) (c : ConnId) (hc : c ∈ (tell x a).d.children) :
    ToldOK a ((tell x a).d.toldL c) ((tell x a).d.toldR c) := by
  obtain ⟨h1, h2⟩ := mem_tell_children.1 hc
  obtain ⟨hl, hr⟩ := tell_told x a c h1 h2
  exact ⟨hl, Or.inl hr⟩

theorem tell_sinv (x : XState) (a : Adv) (h : SInv x.d) : SInv (tell x a).d := by
  refine h.sub (List.filter_sublist ..) (List.filter_sublist ..) rfl rfl rfl rfl rfl (fun p hp => ?_) (fun c hc => ?_)
  · rw [tell_live, List.mem_filter]
    exact ⟨h.parentLive p hp, by simp [h.parent_not_child hp]⟩
  · obtain ⟨h1, h2⟩ := mem_tell_children.1 hc
    rw [tell_live, List.mem_filter]
    exact ⟨h.childLive c h1, by simp [h2]⟩

theorem tell_binv (x : XState) (a : Adv) (h : BInv x) : BInv (tell x a) :=
  h.frame (tell_sinv x a h.str) (fun _ h => h) (Nat.le_refl _) (fun c hc => Or.inl (tell_children_sub x a c hc))

theorem tell_toldS (x : XState) (a : Adv) (h : ToldS x.d) : ToldS (tell x a).d :=
  h.frame rfl rfl rfl (tell_adv x a)

theorem notifyChildrenX_cases {P : XState → Prop} (x : XState) (h0 : P x) (h1 : ∀ a, P (tell x a)) :
    P (notifyChildrenX x) := by
  unfold notifyChildrenX
  split
  · exact h1 _
  · exact h0

/-- `y` differs from `x` only in what the children were told and in children / closed connections that went away -/
structure Shrinks (x y : XState) : Prop where
  parent : y.d.parent = x.d.parent
  session : y.d.session = x.d.session
  level : y.d.level = x.d.level
  root : y.d.root = x.d.root
  toldServer : y.d.toldServer = x.d.toldServer
  nextConn : y.d.nextConn = x.d.nextConn
  children : ∀ c ∈ y.d.children, c ∈ x.d.children
  closing : ∀ c ∈ y.closing, c ∈ x.closing
  pend : y.pend = x.pend
  srvBlocked : y.srvBlocked = x.srvBlocked
  accept : y.d.accept = x.d.accept
  maxChildren : y.d.maxChildren = x.d.maxChildren
  minSpeed : y.d.minSpeed = x.d.minSpeed
  ratio : y.d.ratio = x.d.ratio
  potential : y.d.potential = x.d.potential

theorem Shrinks.refl (x : XState) : Shrinks x x := by
  constructor
  case children | closing => exact fun _ h => h
  all_goals rfl

theorem Shrinks.trans {x y z : XState} (h1 : Shrinks x y) (h2 : Shrinks y z) : Shrinks x z :=
  ⟨h2.parent.trans h1.parent, h2.session.trans h1.session, h2.level.trans h1.level, h2.root.trans h1.root,
   h2.toldServer.trans h1.toldServer, h2.nextConn.trans h1.nextConn,
   fun c h => h1.children c (h2.children c h), fun c h => h1.closing c (h2.closing c h),
   h2.pend.trans h1.pend, h2.srvBlocked.trans h1.srvBlocked, h2.accept.trans h1.accept,
   h2.maxChildren.trans h1.maxChildren, h2.minSpeed.trans h1.minSpeed, h2.ratio.trans h1.ratio,
   h2.potential.trans h1.potential⟩

theorem Shrinks.adv {x y : XState} (h : Shrinks x y) (me : Name) : y.d.adv me = x.d.adv me :=
  adv_congr x.d y.d me h.parent (fun _ _ => by rw [h.level, h.root]; exact ⟨rfl, rfl⟩)

theorem Shrinks.toldS {x y : XState} (h : Shrinks x y) (hs : ToldS x.d) : ToldS y.d :=
  hs.frame h.session h.toldServer h.parent h.adv

-- `{ Shrinks.refl x with … }`, here and for `Keeps`: the fields not named hold of a state written as `x` with some
-- fields set as they hold of `x`, by `rfl`
theorem tell_shrinks (x : XState) (a : Adv) : Shrinks x (tell x a) :=
  { Shrinks.refl x with children := tell_children_sub x a }

theorem notifyChildrenX_shrinks (x : XState) : Shrinks x (notifyChildrenX x) :=
  notifyChildrenX_cases x (Shrinks.refl x) (tell_shrinks x)

theorem runCont_shrinks (x : XState) (k : Cont) : Shrinks x (runCont x k) := by
  cases k with
  | tellAdv => exact notifyChildrenX_shrinks x
  | unsetTail c me =>
    refine (tell_shrinks x ⟨0, me⟩).trans ?_
    exact { Shrinks.refl _ with
      children := fun e h => List.mem_of_mem_erase h, closing := fun e h => (List.mem_filter.1 h).1 }

theorem runCont_binv (x : XState) (k : Cont) (h : BInv x) (hp : x.pend = [])
    (hk : ∀ c me, k = .unsetTail c me → x.d.parent ≠ some c) : BInv (runCont x k) := by
  cases k with
  | tellAdv => exact notifyChildrenX_cases (P := BInv) x h (fun a => tell_binv x a h)
  | unsetTail c me =>
    have h1 := tell_binv x ⟨0, me⟩ h
    have hpar : (tell x ⟨0, me⟩).d.parent ≠ some c := hk c me rfl
    refine ⟨dropConn_sinv _ c h1.str hpar, ?_, ?_, ?_, ?_, fun _ => hp⟩
    · intro e he; exact h1.closingNP e (List.mem_filter.1 he).1
    · intro e he; exact h1.closingFresh e (List.mem_filter.1 he).1
    · intro e he hm; exact h1.closingNC e (List.mem_filter.1 he).1 (List.mem_of_mem_erase hm)
    · intro e me' hm
      have hm' : Cont.unsetTail e me' ∈ x.pend := hm
      rw [hp] at hm'; cases hm'

theorem notifyChildrenX_toldC (x : XState) : ToldC (notifyChildrenX x).d := by
  intro me hm c hc
  have hs : x.d.session = some me := (notifyChildrenX_shrinks x).session ▸ hm
  rw [(notifyChildrenX_shrinks x).adv]
  unfold notifyChildrenX at hc ⊢
  rw [hs] at hc ⊢
  exact tell_toldOK x _ c hc

theorem runCont_toldC (x : XState) (k : Cont) (h : ContOK x.d (some k)) : ToldC (runCont x k).d := by
  cases k with
  | tellAdv => exact notifyChildrenX_toldC x
  | unsetTail c me' =>
    intro me hm e he
    have hsh := runCont_shrinks x (.unsetTail c me')
    obtain ⟨hme, hpar⟩ := h me (hsh.session ▸ hm)
    subst hme
    rw [hsh.adv, adv_noParent _ _ hpar]
    exact tell_toldOK x ⟨0, me'⟩ e (List.mem_of_mem_erase he)

theorem serverThen_xinv (x : XState) (k : Cont) (h : BInv x)
    (hk : ∀ c me, k = .unsetTail c me → c ∈ x.closing ∧ x.d.session = some me ∧ x.d.parent = none) :
    XInv (serverThen x k) := by
  unfold serverThen
  split
  next hs => exact xinv_nosession x h hs
  · have hb1 : BInv { x with d := notifyServer x.d } :=
      h.frame (notifyServer_sinv _ h.str) (fun _ hp => notifyServer_parent _ ▸ hp)
        (Nat.le_of_eq (notifyServer_nextConn _).symm) (fun c hc => Or.inl (notifyServer_children _ ▸ hc))
    -- what is demanded of `k` as the youngest suspended handler holds once the server has been notified
    have hok : ContOK (notifyServer x.d) (some k) := by
      cases k with
      | tellAdv => trivial
      | unsetTail c me' =>
        intro me hm
        obtain ⟨_, h2, h3⟩ := hk c me' rfl
        rw [notifyServer_session, h2] at hm
        exact ⟨Option.some.inj hm, (notifyServer_parent _).trans h3⟩
    by_cases hbl : x.srvBlocked = true
    · rw [if_pos hbl]
      refine ⟨⟨hb1.str, hb1.closingNP, hb1.closingFresh, hb1.closingNC, ?_,
        fun hf => absurd hbl (Bool.eq_false_iff.1 hf)⟩, notifyServer_toldS _, ?_⟩
      · intro c me hm
        rcases List.mem_append.1 hm with hm | hm
        · exact h.pendClosing c me hm
        · exact (hk c me (List.mem_singleton.1 hm).symm).1
      · show ContOK (notifyServer x.d) (x.pend ++ [k]).getLast?
        rw [List.getLast?_concat]
        exact hok
    · rw [if_neg hbl]
      have hpend : x.pend = [] := h.unblocked (Bool.of_not_eq_true hbl)
      have hsh := runCont_shrinks { x with d := notifyServer x.d } k
      refine ⟨runCont_binv _ k hb1 hpend (fun c me hke => ?_), hsh.toldS (notifyServer_toldS _), ?_⟩
      · rw [notifyServer_parent, (hk c me hke).2.2]; exact fun he => by cases he
      · rw [hsh.pend, hpend]
        exact runCont_toldC _ k hok

theorem xinv_frame {x : XState} {d' : DState} (h : XInv x) (q : Quiet x.d d') : XInv { x with d := d' } :=
  ⟨h.binv.frame (q.sinv h.binv.str) (fun _ hp => q.parent ▸ hp) (Nat.le_of_eq q.nextConn.symm)
     (fun _ hc => Or.inl (q.children ▸ hc)),
   q.toldS h.toldS, h.pendOK.frame q.session q.parent (fun _ => q.toldC)⟩

theorem closePeerX_xinv (x : XState) (c : ConnId) (h : XInv x) : XInv (closePeerX x c) := by
  have hb := h.binv
  unfold closePeerX
  split
  next hc =>
    split
    next hp =>
      have hnc : c ∉ x.d.children := hb.str.parent_not_child hp
      split
      next me hs =>
        apply serverThen_xinv
        · refine ⟨sinv_noParent x.d hb.str, ?_, ?_, ?_, ?_, hb.unblocked⟩
          · intro e _ he; cases he
          · exact List.forall_mem_cons.2 ⟨hb.str.fresh _ hc, hb.closingFresh⟩
          · exact List.forall_mem_cons.2 ⟨hnc, hb.closingNC⟩
          · intro e me' hm; exact List.mem_cons_of_mem _ (hb.pendClosing e me' hm)
        · intro c' me' hk
          cases hk
          exact ⟨List.mem_cons_self, hs, rfl⟩
      next hs =>
        refine xinv_nosession _ ?_ hs
        exact hb.frame (dropConn_sinv _ c (sinv_noParent x.d hb.str) (fun he => by cases he))
          (fun _ he => by cases he) (Nat.le_refl _) (fun _ hm => Or.inl (List.mem_of_mem_erase hm))
    next hp =>
      exact ⟨hb.frame (dropConn_sinv _ c hb.str hp) (fun _ he => he) (Nat.le_refl _)
          (fun _ hm => Or.inl (List.mem_of_mem_erase hm)), dropConn_toldS _ c h.toldS,
        h.pendOK.frame rfl rfl (fun _ => dropConn_toldC _ c)⟩
  · exact h

theorem resetX_xinv (x : XState) (h : XInv x) : XInv (resetX x) := by
  unfold resetX
  have h1 : XInv (x.d.children.foldl closePeerX x) :=
    List.foldlRecOn _ _ h (fun y hy c _ => closePeerX_xinv y c hy)
  simp only
  split
  · exact closePeerX_xinv _ _ h1
  · exact h1

theorem setParentX_xinv (x : XState) (c : ConnId) (hb : BInv x) (hc : c ∈ x.d.live) (hcl : c ∉ x.closing)
    (hl : (x.d.level c).isSome) (hr : (x.d.root c).isSome) (hn : x.d.isChildName (x.d.name c) = false) :
    XInv (setParentX x c) := by
  unfold setParentX
  apply serverThen_xinv
  · have hn' : ∀ e ∈ x.d.children, x.d.name e ≠ x.d.name c := by
      unfold DState.isChildName at hn
      rw [List.any_eq_false] at hn
      exact fun e he => by simpa using hn e he
    -- `c` becomes the parent, then the connections that are nobody's go
    have hs : SInv { x.d with parent := some c } := sinv_setParent x.d c hb.str hc ⟨hl, hr⟩ hn'
    refine ⟨hs.sub (List.filter_sublist ..) (List.Sublist.refl _) rfl rfl rfl rfl rfl (fun p hp => ?_) (fun e he => ?_),
      fun e he hp => ?_, hb.closingFresh, hb.closingNC, hb.pendClosing, hb.unblocked⟩
    · cases hp; exact List.mem_filter.2 ⟨hc, decide_eq_true (Or.inl rfl)⟩
    · exact List.mem_filter.2 ⟨hb.str.childLive e he, decide_eq_true (Or.inr (Or.inl he))⟩
    · cases hp; exact hcl he
  · intro _ _ hk; cases hk

theorem checkNewParentX_xinv (x : XState) (c : ConnId) (h : XInv x) (hc : c ∈ x.d.live) (hcl : c ∉ x.closing) :
    XInv (checkNewParentX x c) := by
  unfold checkNewParentX
  split
  next hlr =>
    split
    next hpn =>
      exact setParentX_xinv x c h.binv hc hcl hlr.1 hlr.2 hpn.2
    · exact closePeerX_xinv x c h
  · exact h

/-- the common tail of `onLevelX` and `onRootX`, the announcement of connection `c` noted as `L`, `R` -/
theorem announce_xinv (x : XState) (c : ConnId) (L : ConnId → Option Nat) (R : ConnId → Option Name)
    (h : XInv x) (hc : c ∈ x.d.live) (hcl : c ∉ x.closing)
    (hoff : ∀ e, e ≠ c → L e = x.d.level e ∧ R e = x.d.root e)
    (hLR : x.d.parent = some c → (L c).isSome ∧ (R c).isSome) :
    XInv (if x.d.parent = some c then serverThen { x with d := { x.d with level := L, root := R } } .tellAdv
          else checkNewParentX { x with d := { x.d with level := L, root := R } } c) := by
  have hb := h.binv
  have hb' : BInv { x with d := { x.d with level := L, root := R } } :=
    hb.frame (sinv_announce x.d c L R hb.str hoff hLR) (fun _ h => h) (Nat.le_refl _) (fun _ hm => Or.inl hm)
  split
  · exact serverThen_xinv _ _ hb' (fun _ _ hk => by cases hk)
  next hp =>
    have ha : ∀ me, DState.adv { x.d with level := L, root := R } me = x.d.adv me := fun me =>
      adv_congr x.d _ me rfl (fun p hpp => hoff p (by intro e; subst e; exact hp hpp))
    exact checkNewParentX_xinv _ c ⟨hb', h.toldS.frame rfl rfl rfl ha,
      h.pendOK.frame rfl rfl (fun _ htc => htc.frame rfl ha (fun _ hm => ⟨hm, rfl, rfl⟩))⟩ hc hcl

theorem onLevelX_xinv (x : XState) (c : ConnId) (n : Nat) (h : XInv x) (hcl : c ∉ x.closing) :
    XInv (onLevelX x c n) := by
  unfold onLevelX
  simp only
  split
  next hc =>
    refine announce_xinv x c _ _ h hc hcl (fun e he => ⟨upd_ne _ _ _ _ he, ?_⟩) (fun hp => ⟨by simp, ?_⟩)
    · split
      · exact upd_ne _ _ _ _ he
      · rfl
    · split
      · simp
      · exact (h.binv.str.parentComplete c hp).2
  · exact h

theorem onRootX_xinv (x : XState) (c : ConnId) (r : Name) (h : XInv x) (hcl : c ∉ x.closing) :
    XInv (onRootX x c r) := by
  unfold onRootX
  simp only
  split
  next hc =>
    split
    · exact h
    · exact announce_xinv x c _ _ h hc hcl (fun e he => ⟨rfl, upd_ne _ _ _ _ he⟩)
        (fun hp => ⟨(h.binv.str.parentComplete c hp).1, by simp⟩)
  · exact h

/-- the fields of the state that `_check_if_new_child` (for a connection that is not the parent's) leaves alone -/
structure SameTop (s s' : DState) : Prop where
  parent : s'.parent = s.parent
  session : s'.session = s.session
  level : s'.level = s.level
  root : s'.root = s.root
  toldServer : s'.toldServer = s.toldServer
  nextConn : s'.nextConn = s.nextConn
  accept : s'.accept = s.accept
  maxChildren : s'.maxChildren = s.maxChildren
  minSpeed : s'.minSpeed = s.minSpeed
  ratio : s'.ratio = s.ratio
  potential : s'.potential = s.potential

theorem addChild_sameTop (s : DState) (c : ConnId) : SameTop s (addChild s c) := by
  unfold addChild
  split <;> constructor <;> rfl

theorem initialized_sameTop (s : DState) (n : Name) (r : Bool) (hs : SInv s) :
    SameTop (withConn s n) (initialized s n r) :=
  initialized_cases s n r hs (by constructor <;> rfl) (by constructor <;> rfl) (fun _ _ => addChild_sameTop _ _)

theorem initialized_xinv (x : XState) (n : Name) (r : Bool) (h : XInv x) :
    XInv { x with d := initialized x.d n r } := by
  have hs := h.binv.str
  have ht := initialized_sameTop x.d n r hs
  have ha : ∀ me, (initialized x.d n r).adv me = x.d.adv me := fun me =>
    (adv_congr _ _ me ht.parent (fun _ _ => by rw [ht.level, ht.root]; exact ⟨rfl, rfl⟩)).trans
      (withConn_adv x.d n hs me)
  refine ⟨h.binv.frame (initialized_sinv x.d n r hs) (fun _ hp => ht.parent ▸ hp) (ht.nextConn ▸ Nat.le_succ _)
      (fun c hc => ?_),
    h.toldS.frame ht.session ht.toldServer ht.parent ha,
    h.pendOK.frame ht.session ht.parent (fun _ => initialized_toldC x.d n r hs)⟩
  rcases initialized_children x.d n r c hs hc with hc | ⟨hc, _⟩
  · exact Or.inl hc
  · exact Or.inr (Nat.le_of_eq hc.symm)

theorem release_xinv (ks : List Cont) (y : XState) (hb : BInv y) (hp : y.pend = []) (hts : ToldS y.d)
    (hk : ∀ c me, Cont.unsetTail c me ∈ ks → y.d.parent ≠ some c) (hl : ContOK y.d ks.getLast?) :
    XInv (ks.foldl runCont y) ∧ (ks.foldl runCont y).pend = [] := by
  induction ks generalizing y with
  | nil =>
    exact ⟨⟨hb, hts, (hp ▸ hl : ContOK y.d y.pend.getLast?)⟩, hp⟩
  | cons k ks ih =>
    have hsh := runCont_shrinks y k
    have hb' := runCont_binv y k hb hp (fun c me hke => hk c me (hke ▸ List.mem_cons_self))
    refine ih (runCont y k) hb' (hsh.pend.trans hp) (hsh.toldS hts) ?_ ?_
    · intro c me hm; rw [hsh.parent]; exact hk c me (List.mem_cons_of_mem _ hm)
    · cases ks with
      | nil => exact runCont_toldC y k hl
      | cons k2 ks2 =>
        rw [List.getLast?_cons_cons] at hl
        exact hl.frame hsh.session hsh.parent (fun hn => absurd hn (by simp))

theorem srvRelease_xinv (x : XState) (h : XInv x) :
    XInv (xstep x .srvRelease) ∧ (xstep x .srvRelease).pend = [] := by
  show XInv (x.pend.foldl runCont { x with srvBlocked := false, pend := [] }) ∧ _
  have hb := h.binv
  apply release_xinv
  · refine ⟨hb.str, hb.closingNP, hb.closingFresh, hb.closingNC, ?_, fun _ => rfl⟩
    intro c me hm; cases hm
  · rfl
  · exact h.toldS
  · intro c me hm; exact hb.closingNP c (hb.pendClosing c me hm)
  · exact h.pendOK

theorem xstep_xinv (x : XState) (op : XOp) (h : XInv x) : XInv (xstep x op) := by
  have hb := h.binv
  cases op with
  | base op =>
    cases op with
    | potentialParents _ | userStats _ _ | minSpeed _ | speedRatio _ | serverStateChange =>
      exact xinv_frame h (step_quiet _ _ rfl)
    | initialized n r => exact initialized_xinv x n r h
    | level c n =>
      show XInv (if c ∈ x.closing then x else onLevelX x c n)
      split
      · exact h
      next hcl => exact onLevelX_xinv x c n h hcl
    | root c r =>
      show XInv (if c ∈ x.closing then x else onRootX x c r)
      split
      · exact h
      next hcl => exact onRootX_xinv x c r h hcl
    | closed c =>
      show XInv (if c ∈ x.closing then x else closePeerX x c)
      split
      · exact h
      · exact closePeerX_xinv x c h
    | resetDistributed => exact resetX_xinv x h
    | sessionInit me =>
      exact serverThen_xinv { x with d := { x.d with session := some me } } .tellAdv
        (hb.frame (hb.str.congr rfl rfl rfl rfl rfl rfl rfl) (fun _ h => h) (Nat.le_refl _) (fun _ hc => Or.inl hc))
        (fun _ _ hk => by cases hk)
    | sessionDestroyed =>
      exact xinv_nosession _
        (hb.frame (hb.str.congr rfl rfl rfl rfl rfl rfl rfl) (fun _ h => h) (Nat.le_refl _) (fun _ hc => Or.inl hc)) rfl
  | srvBlock =>
    exact ⟨⟨hb.str, hb.closingNP, hb.closingFresh, hb.closingNC, hb.pendClosing, fun hf => by cases hf⟩,
      h.toldS, h.pendOK⟩
  | srvRelease => exact (srvRelease_xinv x h).1
  | arm c => exact ⟨⟨hb.str, hb.closingNP, hb.closingFresh, hb.closingNC, hb.pendClosing, hb.unblocked⟩,
                    h.toldS, h.pendOK⟩
  | childBlock c => exact h
  | childRelease c => exact h

theorem xinv_of_inv (s : DState) (h : Inv s) : XInv { d := s } :=
  ⟨⟨h.str, fun _ hc => absurd hc List.not_mem_nil, fun _ hc => absurd hc List.not_mem_nil,
    fun _ hc => absurd hc List.not_mem_nil, fun _ _ hc => absurd hc List.not_mem_nil, fun _ => rfl⟩,
   h.told.toldS, h.told.toldC⟩

theorem xrun_snoc (ops : List XOp) (op : XOp) : xrun (ops ++ [op]) = xstep (xrun ops) op := by
  simp [xrun, List.foldl_append]

theorem xrun_xinv (ops : List XOp) : XInv (xrun ops) :=
  List.foldlRecOn ops xstep (xinv_of_inv init init_inv) (fun x hx op _ => xstep_xinv x op hx)

theorem xrun_rel {α : Type} (f : α → XOp → α) (R : XState → α → Prop) (a : α) (h0 : R XState.init a)
    (hstep : ∀ x a op, XInv x → R x a → R (xstep x op) (f a op)) (ops : List XOp) :
    R (xrun ops) (ops.foldl f a) :=
  (List.foldl_rel (r := fun x a => XInv x ∧ R x a) ⟨xinv_of_inv init init_inv, h0⟩
    (fun op _ x a h => ⟨xstep_xinv x op h.1, hstep x a op h.1 h.2⟩)).2

theorem xrun_ind {P : XState → Prop} (h0 : P XState.init) (hstep : ∀ x op, XInv x → P x → P (xstep x op))
    (ops : List XOp) : P (xrun ops) :=
  xrun_rel (fun _ _ => ()) (fun x _ => P x) () h0 (fun x _ op => hstep x op) ops

theorem xinv_settled (x : XState) (h : XInv x) (hp : x.pend = []) : Inv x.d := by
  have := h.pendOK
  rw [hp] at this
  exact ⟨h.binv.str, h.toldS, this⟩

structure Keeps (x y : XState) : Prop where
  children : ∀ c ∈ y.d.children, c ∈ x.d.children
  session : y.d.session = x.d.session
  accept : y.d.accept = x.d.accept
  maxChildren : y.d.maxChildren = x.d.maxChildren
  minSpeed : y.d.minSpeed = x.d.minSpeed
  ratio : y.d.ratio = x.d.ratio
  potential : y.d.potential = x.d.potential
  nextConn : y.d.nextConn = x.d.nextConn

theorem Keeps.trans {x y z : XState} (h1 : Keeps x y) (h2 : Keeps y z) : Keeps x z :=
  ⟨fun c h => h1.children c (h2.children c h), h2.session.trans h1.session, h2.accept.trans h1.accept,
   h2.maxChildren.trans h1.maxChildren, h2.minSpeed.trans h1.minSpeed, h2.ratio.trans h1.ratio,
   h2.potential.trans h1.potential, h2.nextConn.trans h1.nextConn⟩

theorem Shrinks.keeps {x y : XState} (h : Shrinks x y) : Keeps x y :=
  ⟨h.children, h.session, h.accept, h.maxChildren, h.minSpeed, h.ratio, h.potential, h.nextConn⟩

theorem Keeps.lim {x y : XState} (h : Keeps x y) : y.d.lim = x.d.lim := by
  unfold DState.lim
  rw [h.session, h.minSpeed, h.ratio, h.accept, h.maxChildren]

/-- `y` is `x` after telling children and letting connections go. `erase` removes one occurrence: what is said of a
connection that has gone needs `live` without duplicates -/
structure Sheds (x y : XState) : Prop where
  keeps : Keeps x y
  level : y.d.level = x.d.level
  root : y.d.root = x.d.root
  name : y.d.name = x.d.name
  live : y.d.live.Sublist x.d.live
  alive : x.d.live.Nodup → ∀ c, y.alive c → x.alive c
  stays : x.d.live.Nodup → ∀ c ∈ x.d.children, c ∈ y.d.live → c ∈ y.d.children
  told : ∀ c, y.d.toldL c ≠ none → x.d.toldL c ≠ none ∨ c ∈ x.d.children

theorem Keeps.refl (x : XState) : Keeps x x := by
  constructor
  case children => exact fun _ h => h
  all_goals rfl

theorem Sheds.refl (x : XState) : Sheds x x :=
  { keeps := .refl x, level := rfl, root := rfl, name := rfl, live := List.Sublist.refl _, alive := fun _ _ h => h,
    stays := fun _ _ h _ => h, told := fun _ h => Or.inl h }

theorem Sheds.trans {x y z : XState} (h1 : Sheds x y) (h2 : Sheds y z) : Sheds x z :=
  ⟨h1.keeps.trans h2.keeps, h2.level.trans h1.level, h2.root.trans h1.root, h2.name.trans h1.name,
   h2.live.trans h1.live, fun h c hc => h1.alive h c (h2.alive (h.sublist h1.live) c hc),
   fun h c hc hl => h2.stays (h.sublist h1.live) c (h1.stays h c hc (h2.live.subset hl)) hl,
   fun c h => (h2.told c h).elim (h1.told c) (fun hc => Or.inr (h1.keeps.children c hc))⟩

theorem sheds_same {x y : XState} (hk : Keeps x y) (h1 : y.d.level = x.d.level) (h2 : y.d.root = x.d.root)
    (h3 : y.d.name = x.d.name) (hl : y.d.live.Sublist x.d.live) (hc : ∀ c ∈ x.closing, c ∈ y.closing)
    (hch : y.d.children = x.d.children) (ht : y.d.toldL = x.d.toldL) : Sheds x y :=
  ⟨hk, h1, h2, h3, hl, fun _ c h => ⟨hl.subset h.1, fun hx => h.2 (hc c hx)⟩, fun _ _ h _ => hch ▸ h,
   fun _ h => Or.inl (ht ▸ h)⟩

theorem tell_sheds (x : XState) (a : Adv) : Sheds x (tell x a) := by
  have hl : (tell x a).d.live.Sublist x.d.live := by rw [tell_live]; exact List.filter_sublist ..
  refine ⟨(tell_shrinks x a).keeps, rfl, rfl, rfl, hl, fun _ c h => ⟨hl.subset h.1, h.2⟩, fun _ c hc hm => ?_,
    fun c h => ?_⟩
  · -- a child that is still registered has no dead socket
    rw [tell_live, List.mem_filter] at hm
    exact mem_tell_children.2 ⟨hc, fun ha => by simpa [hc, ha] using hm.2⟩
  · by_cases hc : c ∈ x.d.children
    · exact Or.inr hc
    · refine Or.inl (fun e => h ?_)
      show (if c ∈ x.d.children ∧ c ∉ x.armed then some a.level else x.d.toldL c) = none
      rw [if_neg (fun h' => hc h'.1)]; exact e

theorem drop_sheds (x : XState) (c : ConnId) (cl : List ConnId) (hcl : ∀ e ∈ x.closing, e ≠ c → e ∈ cl) :
    Sheds x { x with d := dropConn x.d c, closing := cl } := by
  refine { keeps := ?_, level := rfl, root := rfl, name := rfl, live := List.erase_sublist,
           alive := fun hnd e he => ?_, stays := fun hnd e he hl => ?_, told := fun _ h => Or.inl h }
  · exact { Keeps.refl x with children := fun _ h => List.mem_of_mem_erase h }
  · have hne : e ≠ c := (hnd.mem_erase_iff.1 he.1).1
    exact ⟨List.mem_of_mem_erase he.1, fun h => he.2 (hcl e h hne)⟩
  · exact (List.mem_erase_of_ne (hnd.mem_erase_iff.1 hl).1).2 he

theorem runCont_sheds (x : XState) (k : Cont) : Sheds x (runCont x k) := by
  cases k with
  | tellAdv => exact notifyChildrenX_cases (P := Sheds x) x (Sheds.refl x) (tell_sheds x)
  | unsetTail c me =>
    exact (tell_sheds x ⟨0, me⟩).trans
      (drop_sheds _ c _ (fun e he hne => List.mem_filter.2 ⟨he, by simpa using hne⟩))

theorem serverThen_sheds (x : XState) (k : Cont) : Sheds x (serverThen x k) := by
  unfold serverThen
  split
  · exact Sheds.refl x
  · have h1 : ∀ p, Sheds x { x with d := notifyServer x.d, pend := p } := fun p =>
      sheds_same
        ⟨fun _ h => notifyServer_children x.d ▸ h, notifyServer_session _, notifyServer_accept _,
         notifyServer_maxChildren _, notifyServer_minSpeed _, notifyServer_ratio _, notifyServer_potential _,
         notifyServer_nextConn _⟩
        (notifyServer_level _) (notifyServer_root _) (notifyServer_name _)
        (notifyServer_live x.d ▸ List.Sublist.refl _) (fun _ h => h) (notifyServer_children _) (notifyServer_toldL _)
    split
    · exact h1 _
    · exact (h1 x.pend).trans (runCont_sheds _ k)

theorem closePeerX_sheds (x : XState) (c : ConnId) : Sheds x (closePeerX x c) := by
  have h0 : ∀ cl, (∀ e ∈ x.closing, e ∈ cl) →
      Sheds x { x with d := { x.d with parent := none }, closing := cl } := fun cl h =>
    sheds_same { Keeps.refl x with } rfl rfl rfl (List.Sublist.refl _) h rfl rfl
  unfold closePeerX
  split
  · split
    · split
      · exact (h0 _ (fun _ h => List.mem_cons_of_mem _ h)).trans (serverThen_sheds _ _)
      · exact (h0 _ (fun _ h => h)).trans (drop_sheds _ c _ (fun _ h _ => h))
    · exact drop_sheds x c _ (fun _ h _ => h)
  · exact Sheds.refl x

theorem resetX_sheds (x : XState) : Sheds x (resetX x) := by
  unfold resetX
  have h1 : Sheds x (x.d.children.foldl closePeerX x) :=
    List.foldlRecOn _ _ (Sheds.refl x) (fun y hy c _ => hy.trans (closePeerX_sheds y c))
  simp only
  split
  · exact h1.trans (closePeerX_sheds _ _)
  · exact h1

theorem checkNewParentX_sheds (x : XState) (c : ConnId) : Sheds x (checkNewParentX x c) := by
  unfold checkNewParentX
  split
  · split
    · unfold setParentX
      refine Sheds.trans ?_ (serverThen_sheds _ _)
      exact sheds_same { Keeps.refl x with } rfl rfl rfl (List.filter_sublist ..)
        (fun _ h => h) rfl rfl
    · exact closePeerX_sheds x c
  · exact Sheds.refl x

/-- the state in which `_on_distributed_branch_level` has noted the announcement (437-447) -/
def notedLevel (x : XState) (c : ConnId) (n : Nat) : XState :=
  { x with d := { x.d with level := upd x.d.level c (some n),
                           root := if n = 0 then upd x.d.root c (some (x.d.name c)) else x.d.root } }

/-- the state in which `_on_distributed_branch_root` has noted the announcement (461-478) -/
def notedRoot (x : XState) (c : ConnId) (r : Name) : XState :=
  { x with d := { x.d with root := upd x.d.root c (some r) } }

theorem level_step (x : XState) (c : ConnId) (n : Nat) :
    (¬ x.alive c ∧ xstep x (.base (.level c n)) = x) ∨
    (x.alive c ∧ Sheds (notedLevel x c n) (xstep x (.base (.level c n)))) := by
  show _ ∨ (_ ∧ Sheds _ (if c ∈ x.closing then x else onLevelX x c n))
  unfold onLevelX
  simp only
  by_cases hal : x.alive c
  · right
    rw [if_neg hal.2, if_pos hal.1]
    refine ⟨hal, ?_⟩
    split
    · exact serverThen_sheds _ _
    · exact checkNewParentX_sheds _ _
  · left
    refine ⟨hal, ?_⟩
    show (if c ∈ x.closing then x else onLevelX x c n) = x
    unfold onLevelX
    simp only
    split
    · rfl
    next hcl => rw [if_neg (fun hm => hal ⟨hm, hcl⟩)]

theorem root_step (x : XState) (c : ConnId) (r : Name) :
    ((x.alive c → x.d.root c = some r) ∧ xstep x (.base (.root c r)) = x) ∨
    (x.alive c ∧ Sheds (notedRoot x c r) (xstep x (.base (.root c r)))) := by
  show _ ∨ (_ ∧ Sheds _ (if c ∈ x.closing then x else onRootX x c r))
  unfold onRootX
  simp only
  by_cases hal : x.alive c ∧ x.d.root c ≠ some r
  · right
    rw [if_neg hal.1.2, if_pos hal.1.1, if_neg hal.2]
    refine ⟨hal.1, ?_⟩
    split
    · exact serverThen_sheds _ _
    · exact checkNewParentX_sheds _ _
  · left
    refine ⟨fun h => Classical.byContradiction (fun hr => hal ⟨h, hr⟩), ?_⟩
    show (if c ∈ x.closing then x else onRootX x c r) = x
    unfold onRootX
    simp only
    split
    · rfl
    next hcl =>
      split
      · split
        · rfl
        next hl hr => exact absurd ⟨⟨hl, hcl⟩, hr⟩ hal
      · rfl

theorem level_keeps (x : XState) (c : ConnId) (n : Nat) : Keeps x (xstep x (.base (.level c n))) := by
  rcases level_step x c n with ⟨_, e⟩ | ⟨_, h⟩
  · rw [e]; exact .refl x
  · exact Keeps.trans (y := notedLevel x c n) { Keeps.refl x with } h.keeps

theorem root_keeps (x : XState) (c : ConnId) (r : Name) : Keeps x (xstep x (.base (.root c r))) := by
  rcases root_step x c r with ⟨_, e⟩ | ⟨_, h⟩
  · rw [e]; exact .refl x
  · exact Keeps.trans (y := notedRoot x c r) { Keeps.refl x with } h.keeps

theorem sessionInit_sheds (x : XState) (me : Name) :
    Sheds { x with d := { x.d with session := some me } } (xstep x (.base (.sessionInit me))) :=
  serverThen_sheds _ _

def XOp.sheds : XOp → Bool
  | .base (.closed _) | .base .resetDistributed | .srvBlock | .srvRelease | .arm _ | .childBlock _
  | .childRelease _ => true
  | _ => false

theorem xstep_sheds (x : XState) (op : XOp) (h : op.sheds = true) : Sheds x (xstep x op) := by
  have h0 : ∀ b p a, Sheds x { x with srvBlocked := b, pend := p, armed := a } := fun _ _ _ =>
    sheds_same { Keeps.refl x with } rfl rfl rfl (List.Sublist.refl _) (fun _ h => h)
      rfl rfl
  match op with
  | .base (.closed c) =>
    show Sheds x (if c ∈ x.closing then x else closePeerX x c)
    split
    · exact Sheds.refl x
    · exact closePeerX_sheds x c
  | .base .resetDistributed => exact resetX_sheds x
  | .srvRelease =>
    exact (h0 _ _ _).trans (List.foldlRecOn _ _ (Sheds.refl _) (fun y hy k _ => hy.trans (runCont_sheds y k)))
  | .srvBlock | .arm _ => exact h0 _ _ _
  | .childBlock _ | .childRelease _ => exact Sheds.refl x

/-- what the event makes a handler other than `initialized` note (`x'`) leaves alone the children, the registered
connections and who has been sent a level: these change by shedding only -/
theorem xstep_noted (x : XState) (op : XOp) :
    (∃ n r, op = .base (.initialized n r)) ∨
    ∃ x', x'.d.children = x.d.children ∧ x'.d.live = x.d.live ∧ x'.d.toldL = x.d.toldL ∧ Sheds x' (xstep x op) := by
  match op with
  | .base (.initialized n r) => exact Or.inl ⟨n, r, rfl⟩
  | .base (.potentialParents _) | .base (.userStats _ _) | .base (.minSpeed _) | .base (.speedRatio _)
  | .base .serverStateChange =>
    refine Or.inr ⟨_, ?_, ?_, ?_, Sheds.refl _⟩
    · exact (step_quiet x.d _ (by rfl)).children
    · exact (step_quiet x.d _ (by rfl)).live
    · exact (step_quiet x.d _ (by rfl)).toldL
  | .base (.level c n) =>
    rcases level_step x c n with ⟨_, e⟩ | ⟨_, hb⟩
    · exact Or.inr ⟨x, rfl, rfl, rfl, by rw [e]; exact Sheds.refl x⟩
    · exact Or.inr ⟨notedLevel x c n, rfl, rfl, rfl, hb⟩
  | .base (.root c r) =>
    rcases root_step x c r with ⟨_, e⟩ | ⟨_, hb⟩
    · exact Or.inr ⟨x, rfl, rfl, rfl, by rw [e]; exact Sheds.refl x⟩
    · exact Or.inr ⟨notedRoot x c r, rfl, rfl, rfl, hb⟩
  | .base (.sessionInit me) =>
    exact Or.inr ⟨{ x with d := { x.d with session := some me } }, rfl, rfl, rfl, sessionInit_sheds x me⟩
  | .base .sessionDestroyed => exact Or.inr ⟨xstep x _, rfl, rfl, rfl, Sheds.refl _⟩
  | .base (.closed _) | .base .resetDistributed | .srvBlock | .srvRelease | .arm _ | .childBlock _
  | .childRelease _ => exact Or.inr ⟨x, rfl, rfl, rfl, xstep_sheds x _ (by rfl)⟩

theorem xstep_children (x : XState) (op : XOp) (e : ConnId) (hs : SInv x.d)
    (h : e ∈ (xstep x op).d.children) (hn : e ∉ x.d.children) :
    ∃ n, op = .base (.initialized n false) ∧ e = x.d.nextConn ∧ Admissible x.d n := by
  rcases xstep_noted x op with ⟨n, r, rfl⟩ | ⟨x', h1, _, _, hb⟩
  · rcases initialized_children x.d n r e hs h with h | ⟨h1, h2, h3⟩
    · exact absurd h hn
    · subst h2; exact ⟨n, rfl, h1, h3⟩
  · exact absurd (h1 ▸ hb.keeps.children e h) hn

theorem onUserStats_lim (d : DState) (n : Name) (sp : Nat) : (onUserStats d n sp).lim = limStats d.lim n sp := by
  unfold onUserStats limStats DState.lim
  dsimp only
  split
  · split
    · rfl
    · split <;> rfl
  · rfl

theorem lim_xstep (x : XState) (op : XOp) (hs : SInv x.d) : (xstep x op).d.lim = limStep x.d.lim op := by
  match op with
  | .base (.initialized n r) =>
    have ht := initialized_sameTop x.d n r hs
    show (initialized x.d n r).lim = x.d.lim
    unfold DState.lim
    rw [ht.session, ht.minSpeed, ht.ratio, ht.accept, ht.maxChildren]
    rfl
  | .base (.level c n) => exact (level_keeps x c n).lim
  | .base (.root c r) => exact (root_keeps x c r).lim
  | .base (.userStats n sp) => exact onUserStats_lim x.d n sp
  | .base (.minSpeed n) =>
    show (requestUserStats { x.d with minSpeed := some n }).lim = _
    unfold requestUserStats; split <;> rfl
  | .base (.speedRatio n) =>
    show (requestUserStats { x.d with ratio := some n }).lim = _
    unfold requestUserStats; split <;> rfl
  | .base (.sessionInit me) => exact (sessionInit_sheds x me).keeps.lim
  | .base (.potentialParents _) | .base .sessionDestroyed | .base .serverStateChange => rfl
  | .base (.closed _) | .base .resetDistributed | .srvBlock | .srvRelease | .arm _ | .childBlock _
  | .childRelease _ => exact (xstep_sheds x _ (by rfl)).keeps.lim

theorem lim_xrun (ops : List XOp) : (xrun ops).d.lim = limits ops :=
  xrun_rel limStep (fun x l => x.d.lim = l) Lim.init rfl (fun x _ op hi h => h ▸ lim_xstep x op hi.binv.str) ops

/-- still listed, as closing, while the handler is suspended; dropped when it has run -/
theorem serverThen_unset_not_alive (y : XState) (c : ConnId) (me : Name) (hy : SInv y.d) (hcl : c ∈ y.closing) :
    ¬ (serverThen y (.unsetTail c me)).alive c := by
  unfold serverThen
  split
  · exact fun h => h.2 hcl
  · split
    · exact fun h => h.2 hcl
    · exact fun h => dropConn_not_live _ c (tell_sinv _ _ (notifyServer_sinv _ hy)).liveNodup h.1

theorem closed_not_alive (x : XState) (c : ConnId) (hs : SInv x.d) :
    ¬ (xstep x (.base (.closed c))).alive c := by
  show ¬ (if c ∈ x.closing then x else closePeerX x c).alive c
  split
  next hcl => exact fun h => h.2 hcl
  · unfold closePeerX
    split
    · split
      · split
        · exact serverThen_unset_not_alive _ c _ (sinv_noParent _ hs) List.mem_cons_self
        · exact fun h => dropConn_not_live _ c hs.liveNodup h.1
      · exact fun h => dropConn_not_live _ c hs.liveNodup h.1
    next hc => exact fun h => hc h.1

theorem tell_plain (s : DState) (a : Adv) :
    tell { d := s } a = { d := { s with
      toldL := fun c => if c ∈ s.children then some a.level else s.toldL c
      toldR := fun c => if c ∈ s.children then some a.root else s.toldR c
      nL := fun c => if c ∈ s.children then s.nL c + 1 else s.nL c
      nR := fun c => if c ∈ s.children then s.nR c + 1 else s.nR c } } := by
  simp [tell]

theorem notifyChildrenX_plain (s : DState) : notifyChildrenX { d := s } = { d := notifyChildren s } := by
  rcases Option.eq_none_or_eq_some s.session with hs | ⟨me, hs⟩
  · unfold notifyChildrenX notifyChildren; simp only [hs]
  · unfold notifyChildrenX notifyChildren; simp only [hs]; rw [tell_plain, hs]

theorem notifyBoth_nosession (s : DState) (h : s.session = none) : notifyChildren (notifyServer s) = s := by
  have h1 : notifyServer s = s := by unfold notifyServer; rw [h]
  rw [h1]; unfold notifyChildren; rw [h]

theorem serverThen_plain_tellAdv (s : DState) :
    serverThen { d := s } .tellAdv = { d := notifyChildren (notifyServer s) } := by
  unfold serverThen
  split
  next hs => rw [notifyBoth_nosession s hs]
  · rw [if_neg Bool.false_ne_true]
    exact notifyChildrenX_plain _

theorem unsetTail_plain (s : DState) (c : ConnId) (me : Name) (hs : s.session = some me)
    (hp : s.parent = none) :
    runCont { d := s, closing := [c] } (.unsetTail c me) = { d := dropConn (notifyChildren s) c } := by
  unfold notifyChildren
  simp only [hs, adv_noParent s me hp]
  have hf : ∀ l : List ConnId, List.filter (fun _ => true) l = l := fun l =>
    List.filter_eq_self.mpr (fun _ _ => rfl)
  simp [runCont, tell, dropConn, hs, hf]

theorem serverThen_plain_unsetTail (s : DState) (c : ConnId) (me : Name) (hs : s.session = some me)
    (hp : s.parent = none) :
    serverThen { d := s, closing := [c] } (.unsetTail c me) =
      { d := dropConn (notifyChildren (notifyServer s)) c } := by
  unfold serverThen
  split
  next hn =>
    have : s.session = none := hn
    rw [hs] at this; cases this
  · rw [if_neg Bool.false_ne_true]
    exact unsetTail_plain _ c me (by rw [notifyServer_session]; exact hs) (by rw [notifyServer_parent]; exact hp)

theorem closePeerX_plain (s : DState) (c : ConnId) : closePeerX { d := s } c = { d := closePeer s c } := by
  rw [closePeer_eq]
  unfold closePeerX
  split
  · split
    · split
      next me hs =>
        exact serverThen_plain_unsetTail { s with parent := none } c me hs rfl
      next hs =>
        rw [notifyBoth_nosession { s with parent := none } hs]
    · rfl
  · rfl

theorem checkNewParentX_plain (s : DState) (c : ConnId) :
    checkNewParentX { d := s } c = { d := checkNewParent s c } := by
  unfold checkNewParentX checkNewParent
  split
  · split
    · unfold setParentX setParent
      have : (fun e => decide (e = c ∨ e ∈ s.children ∨ e ∈ ([] : List ConnId))) =
          (fun e => decide (e = c ∨ e ∈ s.children)) := by
        funext e; simp
      simp only [this]
      exact serverThen_plain_tellAdv _
    · exact closePeerX_plain s c
  · rfl

theorem resetX_plain (s : DState) : resetX { d := s } = { d := reset s } := by
  unfold resetX reset
  have h1 : s.children.foldl closePeerX { d := s } = { d := s.children.foldl closePeer s } :=
    List.foldl_rel (r := fun (x : XState) (t : DState) => x = { d := t }) rfl
      (fun c _ x t e => by rw [e, closePeerX_plain])
  simp only
  rw [h1]
  split
  next p hp =>
    simp only at hp
    rw [hp]
    exact closePeerX_plain _ p
  next hp =>
    simp only at hp
    rw [hp]

theorem xstep_base (s : DState) (op : Op) : xstep { d := s } (.base op) = { d := step s op } := by
  cases op with
  | level c n =>
    show (if c ∈ ([] : List ConnId) then ({ d := s } : XState) else onLevelX { d := s } c n) = { d := onLevel s c n }
    rw [if_neg List.not_mem_nil]
    unfold onLevelX onLevel
    simp only
    split
    · split
      · exact serverThen_plain_tellAdv _
      · exact checkNewParentX_plain _ c
    · rfl
  | root c r =>
    show (if c ∈ ([] : List ConnId) then ({ d := s } : XState) else onRootX { d := s } c r) = { d := onRoot s c r }
    rw [if_neg List.not_mem_nil]
    unfold onRootX onRoot
    simp only
    split
    · split
      · rfl
      · split
        · exact serverThen_plain_tellAdv _
        · exact checkNewParentX_plain _ c
    · rfl
  | closed c =>
    show (if c ∈ ([] : List ConnId) then ({ d := s } : XState) else closePeerX { d := s } c) = _
    rw [if_neg List.not_mem_nil]; exact closePeerX_plain s c
  | resetDistributed => exact resetX_plain s
  | sessionInit me => exact serverThen_plain_tellAdv { s with session := some me }
  | potentialParents _ | initialized _ _ | userStats _ _ | minSpeed _ | speedRatio _ | sessionDestroyed
  | serverStateChange => rfl

theorem xrun_base (ops : List Op) : xrun (ops.map XOp.base) = { d := run ops } := by
  unfold xrun run
  rw [List.foldl_map]
  exact List.foldl_rel (r := fun (x : XState) (t : DState) => x = { d := t }) rfl
    (fun op _ x t e => by rw [e, xstep_base])

theorem step_inv (s : DState) (op : Op) (h : Inv s) : Inv (step s op) := by
  have := xstep_xinv _ (.base op) (xinv_of_inv s h)
  rw [xstep_base] at this
  exact xinv_settled _ this rfl

theorem run_inv (ops : List Op) : Inv (run ops) := by
  have := xrun_xinv (ops.map .base)
  rw [xrun_base] at this
  exact xinv_settled _ this rfl

theorem step_children (s : DState) (op : Op) (d : ConnId) (hi : Inv s)
    (h : d ∈ (step s op).children) (hn : d ∉ s.children) :
    ∃ n, op = .initialized n false ∧ d = s.nextConn ∧ Admissible s n := by
  have h' : d ∈ (xstep { d := s } (.base op)).d.children := by rw [xstep_base]; exact h
  obtain ⟨n, e, h1, h2⟩ := xstep_children _ _ d hi.str h' hn
  exact ⟨n, XOp.base.inj e, h1, h2⟩

end AioslskVerif.Dist
