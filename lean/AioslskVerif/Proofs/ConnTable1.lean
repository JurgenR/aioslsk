import AioslskVerif.Proofs.ConnBase
/-! The step table of `Proofs/ConnBase.lean` for the connections we open to a peer, by kernel evaluation. -/
namespace AioslskVerif.Conn

theorem table_direct (t : Bool) : tableFor .direct t = true := by
  unfold_table
  cases t <;> decide +kernel

theorem table_back (t : Bool) : tableFor .back t = true := by
  unfold_table
  cases t <;> decide +kernel

end AioslskVerif.Conn
