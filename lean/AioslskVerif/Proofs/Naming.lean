import AioslskVerif.Model.Naming
/-! The chain threads a pair whose components are all `Regular` (`Inv`), and regular components join to a string that
resolves to themselves.  Ending in the number strategy the chain returns a name that is not there; since a claim only
adds entries, that keeps the paths held at the same time pairwise distinct (`SysInv`). -/
namespace AioslskVerif.Naming

theorem splitAux_nonempty_nosep (s cur : List Char) (hcur : ∀ c ∈ cur, isSep c = false) :
    ∀ p ∈ splitAux s cur, p ≠ [] ∧ ∀ c ∈ p, isSep c = false := by
  fun_induction splitAux s cur with
  | case1 => simp
  | case2 cur h => simpa using ⟨by simpa using h, hcur⟩
  | case3 c cs cur _ _ ih => exact ih (by simp)
  | case4 c cs cur _ h ih =>
    rw [List.forall_mem_cons]
    exact ⟨by simpa using ⟨by simpa using h, hcur⟩, ih (by simp)⟩
  | case5 c cs cur h ih => exact ih (List.forall_mem_cons.mpr ⟨by simpa using h, hcur⟩)

theorem localParts_regular {r : List Char} {p : Name} (hp : p ∈ localParts r) : Regular p := by
  obtain ⟨hmem, hf⟩ := List.mem_filter.mp hp
  have h := splitAux_nonempty_nosep r [] (by simp) p hmem
  simp only [Bool.and_eq_true, bne_iff_ne, ne_eq] at hf
  exact ⟨h.1, hf.1, hf.2, h.2⟩

theorem Regular.not_nil_or_dot {n : Name} (h : Regular n) : ¬(n = [] ∨ n = dot) :=
  fun h0 => h0.elim h.1 h.2.1

theorem Regular.ne_slash {n : Name} (h : Regular n) : ∀ c ∈ n, c ≠ '/' := by
  rintro c hc rfl
  exact absurd (h.2.2.2 _ hc) (by decide)

theorem splitext_append (n : Name) : (splitext n).1 ++ (splitext n).2 = n := by
  have key := List.takeWhile_append_dropWhile (p := (· != '.')) (l := n.reverse)
  unfold splitext
  dsimp only
  split
  · simp
  · rename_i c stemRev hd
    split
    · simp
    · rw [hd] at key
      simpa using congrArg List.reverse key

theorem isSep_of_isDigit {c : Char} (h : c.isDigit = true) : isSep c = false := by
  cases hs : isSep c
  · rfl
  · simp only [isSep, Bool.or_eq_true, beq_iff_eq] at hs
    rcases hs with rfl | rfl <;> exact absurd h (by decide)

/-- a numbered name contains a space: it is none of the names that denote a directory -/
theorem numbered_not_special (stem ext : Name) (k : Nat) :
    ¬(numbered stem ext k = [] ∨ numbered stem ext k = dot ∨ numbered stem ext k = dotdot) := by
  have hsp : ' ' ∈ numbered stem ext k := by simp [numbered]
  -- none of the three names contains a space
  rintro (h | h | h) <;> rw [h] at hsp
  all_goals revert hsp; decide

theorem numbered_regular (stem ext : Name) (k : Nat) (h : ∀ c ∈ stem ++ ext, isSep c = false) :
    Regular (numbered stem ext k) := by
  have hne := numbered_not_special stem ext k
  refine ⟨fun h0 => hne (.inl h0), fun h0 => hne (.inr (.inl h0)), fun h0 => hne (.inr (.inr h0)), ?_⟩
  simp only [numbered, List.forall_mem_append] at h ⊢
  have hdig : ∀ c ∈ Nat.toDigits 10 k, isSep c = false :=
    fun c hc => isSep_of_isDigit (Nat.isDigit_of_mem_toDigits (by decide) (by decide) hc)
  exact ⟨⟨⟨⟨h.1, by decide⟩, hdig⟩, by decide⟩, h.2⟩

theorem stripPrefix_append (p s : List Char) : stripPrefix p (p ++ s) = some s := by
  induction p with
  | nil => cases s <;> rfl
  | cons a p ih => simp [stripPrefix, ih]

theorem matchIndex_numbered (stem ext : Name) (k : Nat) (tail : List Char) :
    matchIndex stem ext (numbered stem ext k ++ tail) = some k := by
  have h1 : numbered stem ext k ++ tail
      = (stem ++ [' ', '(']) ++ (Nat.toDigits 10 k ++ ')' :: (ext ++ tail)) := by
    simp [numbered]
  have hd : ∀ c ∈ Nat.toDigits 10 k, c.isDigit = true :=
    fun c hc => Nat.isDigit_of_mem_toDigits (by decide) (by decide) hc
  have hp : Char.isDigit ')' = false := by decide
  unfold matchIndex
  rw [h1, stripPrefix_append]
  simp [List.takeWhile_append_of_pos hd, List.dropWhile_append_of_pos hd, hp, Nat.toDigits_ne_nil,
    stripPrefix_append, Nat.ofDigitChars_ten_toDigits]

theorem firstFree_not_mem (is : List Nat) : ∀ (fuel start : Nat), (∀ x ∈ is, x < start + fuel) →
    firstFree is start fuel ∉ is := by
  intro fuel
  induction fuel with
  | zero => exact fun start h hm => Nat.lt_irrefl _ (h _ hm)
  | succ f ih =>
    intro start h
    unfold firstFree
    split
    · exact ih (start + 1) (fun x hx => by have := h x hx; omega)
    · rename_i hc; simpa using hc

theorem nextIndex_not_mem (is : List Nat) : nextIndex is ∉ is := by
  unfold nextIndex
  split
  · simp
  next i rest =>
    -- the search runs from the least index `lo` over `hi + 1 - lo` steps, so up to `hi + 1`, past every index
    apply firstFree_not_mem
    intro x hx
    have : x ≤ rest.foldl max i := (List.max?_le_iff List.max?_cons').mp (Nat.le_refl _) x hx
    omega

theorem numbered_fresh (stem ext : Name) (listing : List Name) :
    numbered stem ext (nextIndex (listing.filterMap (matchIndex stem ext))) ∉ listing := by
  intro hmem
  apply nextIndex_not_mem (listing.filterMap (matchIndex stem ext))
  exact List.mem_filterMap.mpr ⟨_, hmem, by simpa using matchIndex_numbered stem ext _ []⟩

theorem pathExists_regular (fs : Fs) (d : Path) {n : Name} (h : Regular n) : fs.pathExists d n = fs.has d n :=
  if_neg fun h0 => h0.elim h.1 fun h0 => h0.elim h.2.1 h.2.2.1

theorem has_eq_true {fs : Fs} {d : Path} {n : Name} : fs.has d n = true ↔ ∃ e ∈ fs, e.dir = d ∧ e.name = n := by
  simp [Fs.has]

theorem has_iff_mem_listdir (fs : Fs) (d : Path) (n : Name) : fs.has d n = true ↔ n ∈ fs.listdir d := by
  simp [Fs.has, Fs.listdir, and_assoc]

theorem has_mono {fs fs' : Fs} (hm : ∀ e ∈ fs, e ∈ fs') {d : Path} {n : Name} (h : fs.has d n = true) :
    fs'.has d n = true := by
  obtain ⟨e, he, hp⟩ := has_eq_true.mp h
  exact has_eq_true.mpr ⟨e, hm e he, hp⟩

/-- invariant of the `(path, filename)` pair threaded through `chain_strategies` -/
def Inv (st : Path × Name) : Prop := (∀ c ∈ st.1, Regular c) ∧ (st.2 = [] ∨ Regular st.2)

theorem inv_init : Inv (([], []) : Path × Name) := ⟨by simp, Or.inl rfl⟩

/-- every strategy keeps the invariant, and the file name, once set (the default strategy sets it), stays set -/
theorem applyStrategy_inv {fs : Fs} {remote : List Char} {st st' : Path × Name} {s : Strategy}
    (hinv : Inv st) (h : applyStrategy fs remote st s = .ok st') :
    Inv st' ∧ (s = .default ∨ Regular st.2 → Regular st'.2) := by
  have same (hs : s ≠ .default) : Inv st ∧ (s = .default ∨ Regular st.2 → Regular st.2) :=
    ⟨hinv, fun hr => hr.resolve_left hs⟩
  cases s with
  | default =>
    simp only [applyStrategy] at h
    split at h
    · cases h
    · rename_i n hn
      cases h
      have hreg := localParts_regular (List.mem_of_getLast? hn)
      exact ⟨⟨hinv.1, .inr hreg⟩, fun _ => hreg⟩
  | keepDir =>
    simp only [applyStrategy] at h
    split at h
    · cases h
    · cases h; exact same (by decide)
    · rename_i a c rest hrev
      split at h
      · cases h; exact same (by decide)
      · cases h
        have hc : Regular c := localParts_regular (List.mem_reverse.mp (by rw [hrev]; simp))
        exact ⟨⟨List.forall_mem_append.mpr ⟨hinv.1, List.forall_mem_singleton.mpr hc⟩, hinv.2⟩,
          (same (by decide)).2⟩
  | number =>
    simp only [applyStrategy] at h
    split at h
    · cases h
      have hsep : ∀ c ∈ (splitext st.2).1 ++ (splitext st.2).2, isSep c = false := by
        rw [splitext_append]
        rcases hinv.2 with h0 | h0
        · simp [h0]
        · exact h0.2.2.2
      exact ⟨⟨hinv.1, .inr (numbered_regular _ _ _ hsep)⟩, fun _ => numbered_regular _ _ _ hsep⟩
    · cases h; exact same (by decide)

theorem number_fresh {fs : Fs} {remote : List Char} {st st' : Path × Name}
    (h : applyStrategy fs remote st .number = .ok st') : fs.pathExists st'.1 st'.2 = false := by
  simp only [applyStrategy] at h
  split at h
  · cases h
    simp only [Fs.pathExists, if_neg (numbered_not_special _ _ _), Bool.eq_false_iff, ne_eq, has_iff_mem_listdir]
    exact numbered_fresh _ _ _
  · rename_i hne
    cases h
    simpa using hne

theorem applyStrategy_total (fs : Fs) {remote : List Char} (hp : localParts remote ≠ [])
    (st : Path × Name) (s : Strategy) : ∃ st', applyStrategy fs remote st s = .ok st' := by
  cases s with
  | default => simp [applyStrategy, List.getLast?_eq_some_getLast hp]
  | keepDir =>
    simp only [applyStrategy]
    split
    · rename_i h; exact absurd (List.reverse_eq_nil_iff.mp h) hp
    · exact ⟨_, rfl⟩
    · split <;> exact ⟨_, rfl⟩
  | number =>
    simp only [applyStrategy]
    split <;> exact ⟨_, rfl⟩

theorem chainAux_cons_ok {fs : Fs} {remote : List Char} {s : Strategy} {ss : List Strategy}
    {st st' : Path × Name} :
    chainAux fs remote (s :: ss) st = .ok st' ↔
      ∃ st1, applyStrategy fs remote st s = .ok st1 ∧ chainAux fs remote ss st1 = .ok st' := by
  simp only [chainAux]
  split <;> simp [*]

theorem chainAux_inv {fs : Fs} {remote : List Char} (ss : List Strategy) : ∀ {st st' : Path × Name},
    Inv st → chainAux fs remote ss st = .ok st' →
    Inv st' ∧ (Strategy.default ∈ ss ∨ Regular st.2 → Regular st'.2) := by
  induction ss with
  | nil => intro st st' hinv h; cases h; exact ⟨hinv, by simp⟩
  | cons s ss ih =>
    intro st st' hinv h
    obtain ⟨st1, h1, h2⟩ := chainAux_cons_ok.mp h
    obtain ⟨hinv1, hreg1⟩ := applyStrategy_inv hinv h1
    obtain ⟨hinv', hreg'⟩ := ih hinv1 h2
    refine ⟨hinv', fun hr => hreg' ?_⟩
    by_cases hs : s = .default
    · exact .inr (hreg1 (.inl hs))
    · rcases hr with hr | hr
      · exact .inl ((List.mem_cons.mp hr).resolve_left (Ne.symm hs))
      · exact .inr (hreg1 (.inr hr))

theorem chainAux_fresh {fs : Fs} {remote : List Char} (ss : List Strategy) : ∀ {st st' : Path × Name},
    ss.getLast? = some .number → chainAux fs remote ss st = .ok st' → fs.pathExists st'.1 st'.2 = false := by
  induction ss with
  | nil => intro _ _ hl; cases hl
  | cons s ss ih =>
    intro st st' hl h
    obtain ⟨st1, h1, h2⟩ := chainAux_cons_ok.mp h
    cases ss with
    | nil =>
      cases hl
      cases h2
      exact number_fresh h1
    | cons s2 ss2 => exact ih hl h2

theorem chainAux_total (fs : Fs) {remote : List Char} (hp : localParts remote ≠ []) (ss : List Strategy) :
    ∀ st, ∃ st', chainAux fs remote ss st = .ok st' := by
  induction ss with
  | nil => exact fun st => ⟨st, rfl⟩
  | cons s ss ih =>
    intro st
    obtain ⟨st1, h1⟩ := applyStrategy_total fs hp st s
    obtain ⟨st', h⟩ := ih st1
    exact ⟨st', chainAux_cons_ok.mpr ⟨st1, h1, h⟩⟩

theorem chain_eq_ok {fs : Fs} {ss : List Strategy} {remote : List Char} {st : Path × Name} :
    chain fs ss remote = .ok st ↔ chainAux fs remote ss ([], []) = .ok st ∧ st.2 ≠ [] := by
  unfold chain
  cases chainAux fs remote ss ([], []) with
  | error e => simp
  | ok st1 =>
    -- both ways what is left says that `st`, being `st1`, has the file name of `st1`
    by_cases he : st1.2 = []
    · simp [he]
      rintro rfl
      exact he
    · simp [he]
      rintro rfl
      exact he

theorem chain_regular {fs : Fs} {ss : List Strategy} {remote : List Char} {d : Path} {n : Name}
    (h : chain fs ss remote = .ok (d, n)) : (∀ c ∈ d, Regular c) ∧ Regular n := by
  obtain ⟨haux, hne⟩ := chain_eq_ok.mp h
  obtain ⟨hinv, -⟩ := chainAux_inv ss inv_init haux
  exact ⟨hinv.1, hinv.2.resolve_left hne⟩

theorem chain_fresh {fs : Fs} {ss : List Strategy} {remote : List Char} {d : Path} {n : Name}
    (hl : ss.getLast? = some .number) (h : chain fs ss remote = .ok (d, n)) : fs.pathExists d n = false :=
  chainAux_fresh ss hl (chain_eq_ok.mp h).1

theorem chain_chooses (fs : Fs) (ss : List Strategy) {remote : List Char}
    (hp : localParts remote ≠ []) (hd : Strategy.default ∈ ss) : ∃ st, chain fs ss remote = .ok st := by
  obtain ⟨st, h⟩ := chainAux_total fs hp ss ([], [])
  exact ⟨st, chain_eq_ok.mpr ⟨h, ((chainAux_inv ss inv_init h).2 (.inl hd)).1⟩⟩

theorem osJoin_regular (a : List Char) {b : Name} (hb : Regular b) (ha : a.getLast? ≠ some '/') :
    osJoin a b = some (a ++ '/' :: b) := by
  have h1 : b.head? ≠ some '/' := fun h0 => hb.ne_slash '/' (List.mem_of_head? h0) rfl
  simp [osJoin, h1, ha]

theorem joinAll_regular (cs : List Name) : ∀ (a : List Char), (∀ c ∈ cs, Regular c) →
    a.getLast? ≠ some '/' → joinAll a cs = some (a ++ (cs.map ('/' :: ·)).flatten) := by
  induction cs with
  | nil => intro a _ _; simp [joinAll]
  | cons c cs ih =>
    intro a h ha
    obtain ⟨hc, hcs⟩ := List.forall_mem_cons.mp h
    -- the joined string ends in the last character of `c`
    have hlast : (a ++ '/' :: c).getLast? ≠ some '/' := by
      simp only [List.getLast?_append, List.getLast?_cons, Option.some_or, List.getLast?_eq_some_getLast hc.1,
        Option.getD_some, ne_eq, Option.some.injEq]
      exact hc.ne_slash _ (List.getLast_mem hc.1)
    simp [joinAll, osJoin_regular a hc ha, ih _ hcs hlast]

theorem splitSlash_append (p : List Char) : ∀ (cur rest : List Char), (∀ c ∈ p, c ≠ '/') →
    splitSlash (p ++ rest) cur = splitSlash rest (p.reverse ++ cur) := by
  induction p with
  | nil => intro cur rest _; rfl
  | cons x p ih =>
    intro cur rest h
    obtain ⟨hx, hp⟩ := List.forall_mem_cons.mp h
    simp [splitSlash, hx, ih _ rest hp]

theorem splitSlash_flatten (cs : List Name) : ∀ (cur : List Char), (∀ c ∈ cs, ∀ x ∈ c, x ≠ '/') →
    splitSlash ((cs.map ('/' :: ·)).flatten) cur = cur.reverse :: cs := by
  induction cs with
  | nil => intro cur _; simp [splitSlash]
  | cons c cs ih =>
    intro cur h
    obtain ⟨hc, hcs⟩ := List.forall_mem_cons.mp h
    simp [splitSlash, splitSlash_append c [] _ hc, ih _ hcs]

theorem walkUp_regular (cs : List Name) : ∀ (st : List Name), (∀ c ∈ cs, Regular c) →
    walkUp cs st = some (st.reverse ++ cs) := by
  induction cs with
  | nil => intro st _; simp [walkUp]
  | cons c cs ih =>
    intro st h
    obtain ⟨hc, hcs⟩ := List.forall_mem_cons.mp h
    simp [walkUp, hc.not_nil_or_dot, hc.2.2.1, ih _ hcs]

theorem walk_length (cs : List Name) : ∀ st : List Name,
    walk cs st.length = (walkUp cs st).map List.length := by
  induction cs with
  | nil => intro st; simp [walk, walkUp]
  | cons c cs ih =>
    intro st
    simp only [walk, walkUp]
    split
    · exact ih st
    · split
      · cases st with
        | nil => rfl
        | cons x st => exact ih st
      · exact ih (c :: st)

theorem walk_regular (cs : List Name) (k : Nat) (h : ∀ c ∈ cs, Regular c) : walk cs k = some (k + cs.length) := by
  -- `walk` is the height of `walkUp`'s stack: run `walkUp` on any stack of height `k`
  have h1 := walk_length cs (List.replicate k [])
  rw [List.length_replicate, walkUp_regular cs _ h] at h1
  simpa using h1

theorem joinAll_resolve_regular (cs : List Name) (h : ∀ c ∈ cs, Regular c) :
    joinAll [] cs = some ((cs.map ('/' :: ·)).flatten) ∧
    resolve ((cs.map ('/' :: ·)).flatten) = some cs := by
  refine ⟨by simpa using joinAll_regular cs [] h (by simp), ?_⟩
  unfold resolve
  rw [splitSlash_flatten cs [] (fun c hc => (h c hc).ne_slash)]
  simpa [walkUp] using walkUp_regular cs [] h

theorem mkdirs_mem (cs : List Name) : ∀ (fs : Fs) (base : Path),
    (∀ e ∈ fs, e ∈ (mkdirs fs base cs).1) ∧ ∀ e ∈ (mkdirs fs base cs).1, e ∈ fs ∨ e.isDir = true := by
  have same (fs : Fs) : (∀ e ∈ fs, e ∈ fs) ∧ ∀ e ∈ fs, e ∈ fs ∨ e.isDir = true :=
    ⟨fun _ he => he, fun _ he => .inl he⟩
  induction cs with
  | nil => exact fun fs _ => same fs
  | cons c cs ih =>
    intro fs base
    simp only [mkdirs]
    split
    · split
      · exact ih _ _
      · exact same fs
    · split
      · exact same fs
      · obtain ⟨h1, h2⟩ := ih ({ dir := base, name := c, isDir := true } :: fs) (base ++ [c])
        refine ⟨fun e he => h1 e (List.mem_cons_of_mem _ he), fun e he => ?_⟩
        rcases h2 e he with h | h
        · rcases List.mem_cons.mp h with rfl | h
          · exact .inr rfl
          · exact .inl h
        · exact .inr h

/-- a claim deletes nothing; when it succeeds the name exists afterwards, and a name longer than `NAME_MAX` was
there before (only a new entry is subject to the limit) -/
theorem claim_spec {fs fs' : Fs} {d : Path} {n : Name} {fault : Fault} {b : Bool}
    (h : claim fs d n fault = (fs', b)) :
    (∀ e ∈ fs, e ∈ fs') ∧ (b = true → fs'.has d n = true ∧ (tooLong n = true → fs.has d n = true)) := by
  have made {fs1 : Fs} {b1 : Bool} (hm : mkdirs fs [] d = (fs1, b1)) := hm ▸ mkdirs_mem d fs []
  revert h
  -- the leaves of `claim` in its order; only the last two can answer `true`
  fun_cases claim fs d n fault
  all_goals intro h; cases h
  next => exact ⟨fun _ he => he, nofun⟩       -- `makedirs` fails at once
  next => exact ⟨(made ‹_›).1, nofun⟩         -- `makedirs` stops at a file
  next => exact ⟨(made ‹_›).1, nofun⟩         -- `open` fails
  next e hm hf =>                             -- the name is there: `open` succeeds unless it is a directory
    have hmem := List.mem_of_find?_eq_some hf
    have hp := List.find?_some hf
    refine ⟨(made hm).1, fun hd => ⟨List.any_eq_true.mpr ⟨e, hmem, hp⟩, fun _ => ?_⟩⟩
    -- the entry found is not a directory, so `makedirs` did not make it
    exact List.any_eq_true.mpr ⟨e, ((made hm).2 e hmem).resolve_right (by simpa using hd), hp⟩
  next => exact ⟨(made ‹_›).1, nofun⟩         -- a new name that is too long
  next hm _ _ hl =>                           -- a new entry
    exact ⟨fun e he => List.mem_cons_of_mem _ ((made hm).1 e he),
      fun _ => ⟨has_eq_true.mpr ⟨_, List.mem_cons_self, rfl, rfl⟩, fun h => absurd h hl⟩⟩

/-- the entries called `(d, n)` go: the `filter` in the `remove` and `abort` cases of `step` -/
abbrev Fs.unlink (fs : Fs) (d : Path) (n : Name) : Fs := fs.filter (fun e => !(e.dir == d && e.name == n))

theorem mem_unlink {fs : Fs} {d : Path} {n : Name} {e : Entry} :
    e ∈ fs.unlink d n ↔ e ∈ fs ∧ (e.dir, e.name) ≠ (d, n) := by
  simp [Decidable.imp_iff_not_or]

theorem unlink_spec (fs : Fs) (d : Path) (n : Name) :
    (fs.unlink d n).has d n = false ∧
    (∀ e ∈ fs, (e.dir, e.name) ≠ (d, n) → e ∈ fs.unlink d n) ∧ (∀ e ∈ fs.unlink d n, e ∈ fs) := by
  refine ⟨?_, fun e he hne => mem_unlink.mpr ⟨he, hne⟩, fun e he => (mem_unlink.mp he).1⟩
  rw [Bool.eq_false_iff, ne_eq, has_eq_true]
  rintro ⟨e, he, hd, hn⟩
  exact (mem_unlink.mp he).2 (by rw [hd, hn])

theorem Sys.find_some {s : Sys} {id : Nat} {a : Dl} (h : s.find id = some a) : a ∈ s.dls ∧ a.id = id :=
  ⟨List.mem_of_find?_eq_some h, by simpa using List.find?_some h⟩

theorem Sys.find_drop (fs : Fs) (s : Sys) (id : Nat) : Sys.find ⟨fs, s.drop id⟩ id = none := by
  simp [Sys.find, Sys.drop]

theorem pairwise_of_mem_ne {α : Type} {R : α → α → Prop} (hsym : ∀ a b, R a b → R b a) {l : List α}
    (hp : l.Pairwise R) {a b : α} (ha : a ∈ l) (hb : b ∈ l) (hne : a ≠ b) : R a b :=
  List.Pairwise.forall_of_forall_of_flip (R := fun x y => x ≠ y → R x y) (fun _ _ h => absurd rfl h)
    (hp.imp (S := fun x y => x ≠ y → R x y) fun h _ => h)
    (hp.imp (S := fun x y => y ≠ x → R y x) fun h _ => hsym _ _ h) ha hb hne

/-- every download that holds a path holds a regular path; unless the user has moved its file away (`gone`) the path
exists in the directory, and no two of those hold the same one -/
def SysInv (s : Sys) : Prop :=
  (∀ a ∈ s.dls, Regular a.name ∧ (∀ c ∈ a.dir, Regular c) ∧ (a.status ≠ .gone → s.fs.has a.dir a.name = true)) ∧
  s.dls.Pairwise (fun a b => a.status ≠ .gone → b.status ≠ .gone → (a.dir, a.name) ≠ (b.dir, b.name))

theorem SysInv.mono_fs {fs fs' : Fs} {dls : List Dl} (h : SysInv ⟨fs, dls⟩)
    (hfs : ∀ a ∈ dls, a.status ≠ .gone → fs.has a.dir a.name = true → fs'.has a.dir a.name = true) :
    SysInv ⟨fs', dls⟩ :=
  ⟨fun a ha => ⟨(h.1 a ha).1, (h.1 a ha).2.1, fun hg => hfs a ha hg ((h.1 a ha).2.2 hg)⟩, h.2⟩

theorem SysInv.drop {s : Sys} (h : SysInv s) (id : Nat) : SysInv ⟨s.fs, s.drop id⟩ :=
  ⟨fun a ha => h.1 a (List.mem_filter.mp ha).1, h.2.sublist List.filter_sublist⟩

theorem SysInv.map {fs : Fs} {dls : List Dl} (h : SysInv ⟨fs, dls⟩) {f : Dl → Dl}
    (hf : ∀ a, (f a).dir = a.dir ∧ (f a).name = a.name ∧ ((f a).status ≠ .gone → a.status ≠ .gone)) :
    SysInv ⟨fs, dls.map f⟩ := by
  refine ⟨fun b hb => ?_, h.2.map _ fun a b hab => ?_⟩
  · obtain ⟨a, ha, rfl⟩ := List.mem_map.mp hb
    obtain ⟨hd, hn, hg⟩ := hf a
    rw [hd, hn]
    exact ⟨(h.1 a ha).1, (h.1 a ha).2.1, fun hg' => (h.1 a ha).2.2 (hg hg')⟩
  · rw [(hf a).1, (hf a).2.1, (hf b).1, (hf b).2.1]
    exact fun h1 h2 => hab ((hf a).2.2 h1) ((hf b).2.2 h2)

theorem SysInv.setStatus {fs : Fs} {dls : List Dl} (h : SysInv ⟨fs, dls⟩) (id : Nat) {o : Status} (n : Status)
    (ho : o ≠ .gone) : SysInv ⟨fs, setStatus id o n dls⟩ :=
  h.map fun a => by
    split
    · rename_i hc
      simp only [Bool.and_eq_true, beq_iff_eq] at hc
      exact ⟨rfl, rfl, fun _ => hc.2 ▸ ho⟩
    · exact ⟨rfl, rfl, fun h => h⟩

/-- deleting the file of one holder leaves the files of the others: they hold other paths -/
theorem SysInv.unlink {fs : Fs} {dls dls' : List Dl} {a : Dl} (h : SysInv ⟨fs, dls⟩) (ha : a ∈ dls)
    (hga : a.status ≠ .gone) (h' : SysInv ⟨fs, dls'⟩)
    (hsub : ∀ b ∈ dls', b.status ≠ .gone → b ∈ dls ∧ b ≠ a) : SysInv ⟨fs.unlink a.dir a.name, dls'⟩ := by
  refine h'.mono_fs fun b hb hg hhas => ?_
  obtain ⟨hbm, hba⟩ := hsub b hb hg
  have hne := pairwise_of_mem_ne (fun x y hxy hy hx heq => hxy hx hy heq.symm) h.2 hbm ha hba hg hga
  obtain ⟨e, he, hd, hn⟩ := has_eq_true.mp hhas
  exact has_eq_true.mpr ⟨e, mem_unlink.mpr ⟨he, by rwa [hd, hn]⟩, hd, hn⟩

theorem choose_inv {ss : List Strategy} (hl : ss.getLast? = some .number) {fs : Fs} {rest : List Dl}
    (id : Nat) (remote : List Char) (fault : Fault) (hinv : SysInv ⟨fs, rest⟩) :
    SysInv (chooseAndClaim ss fs rest id remote fault).1 := by
  fun_cases chooseAndClaim ss fs rest id remote fault
  · exact hinv
  · rename_i hcl
    exact hinv.mono_fs fun a _ _ => has_mono (claim_spec hcl).1
  · rename_i d n hch fs' hcl
    obtain ⟨hdreg, hreg⟩ := chain_regular hch
    have hfresh := chain_fresh hl hch
    rw [pathExists_regular _ _ hreg] at hfresh
    obtain ⟨hm, hc⟩ := claim_spec hcl
    have hinv' := hinv.mono_fs fun a _ _ => has_mono hm
    refine ⟨List.forall_mem_cons.mpr ⟨⟨hreg, hdreg, fun _ => (hc rfl).1⟩, hinv'.1⟩,
      List.pairwise_cons.mpr ⟨?_, hinv'.2⟩⟩
    -- the new path did not exist when it was chosen; what the others hold did
    intro a ha _ hg heq
    cases heq
    exact Bool.false_ne_true (hfresh ▸ (hinv.1 a ha).2.2 hg)

theorem step_inv {ss : List Strategy} (hl : ss.getLast? = some .number) {s : Sys} (op : Op)
    (hinv : SysInv s) : SysInv (step ss s op).1 := by
  cases op with
  | start id remote fault =>
    simp only [step]
    split
    next => -- a download with this id holds a path: by its status
      split
      next => exact hinv                                             -- `running`
      next => exact hinv.setStatus id _ (by decide)                  -- `broken`
      next => exact choose_inv hl id remote fault (hinv.drop id)     -- `complete`
      next => exact choose_inv hl id remote fault (hinv.drop id)     -- `gone`
    next => exact choose_inv hl id remote fault hinv
  | finish id => exact hinv.setStatus id _ (by decide)
  | cut id => exact hinv.setStatus id _ (by decide)
  | remove id =>
    simp only [step]
    split
    · rename_i a hf
      obtain ⟨hmem, hid⟩ := Sys.find_some hf
      split
      · rename_i hc
        split
        · refine hinv.unlink hmem (by rw [hc]; decide) (hinv.setStatus id _ (by decide)) fun b hb hg => ?_
          -- a download that is not `gone` afterwards is an unchanged one, and `a` was changed
          obtain ⟨c, hcm, rfl⟩ := List.mem_map.mp hb
          split at hg
          · exact absurd rfl hg
          · rename_i hnc
            rw [if_neg hnc]
            exact ⟨hcm, fun heq => hnc (by simp [heq, hid, hc])⟩
        · exact hinv
      · exact hinv
    · exact hinv
  | requeue id =>
    simp only [step]
    split
    · split
      · exact hinv.drop id
      · exact hinv
    · exact hinv
  | abort id =>
    simp only [step]
    split
    · rename_i a hf
      obtain ⟨hmem, hid⟩ := Sys.find_some hf
      split
      · rename_i hc
        refine hinv.unlink hmem (by rw [hc]; decide) (hinv.drop id) fun b hb _ => ?_
        obtain ⟨hbm, hbid⟩ := List.mem_filter.mp hb
        exact ⟨hbm, fun heq => by simp [heq, hid] at hbid⟩
      · exact hinv
    · exact hinv

theorem run_inv {ss : List Strategy} (hl : ss.getLast? = some .number) (ops : List Op) (s : Sys) (h : SysInv s) :
    SysInv (run ss s ops) :=
  List.foldlRecOn ops _ h fun _ hs op _ => step_inv hl op hs

end AioslskVerif.Naming
