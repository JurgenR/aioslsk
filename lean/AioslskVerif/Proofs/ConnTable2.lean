import AioslskVerif.Proofs.ConnBase
/-! The step table of `Proofs/ConnBase.lean` for accepted connections and the server connection, by kernel evaluation. -/
namespace AioslskVerif.Conn

theorem table_incoming (t : Bool) : tableFor .incoming t = true := by
  unfold_table
  cases t <;> decide +kernel

theorem table_server (t : Bool) : tableFor .server t = true := by
  unfold_table
  cases t <;> decide +kernel

end AioslskVerif.Conn
