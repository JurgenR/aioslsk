import AioslskVerif.Proofs.Transfer
/-!
File-system faults (`XOp.fsFault`) change only what becomes of the file: helper lemmas for
`C03_fs_faults_change_only_the_file` (Props/C03.lean). `calm` erases the two facts about the file system
(`fsBroken`, `fileExists`). Every function of the model commutes with it, because the only statement that
reads them (`removeLocalFile`) writes nothing else that depends on them; the two ops that set one of the facts
(`fsFault`, `setFile`) are dealt with where the runs are compared.
-/
namespace AioslskVerif.Transfer
open AioslskVerif.Generated.Transfer

/-- the fields without the two facts about the file system -/
def calmF (f : Fields) : Fields := { f with fsBroken := false, fileExists := false }

/-- the state without the two facts about the file system -/
def calm (x : XState) : XState := { x with f := calmF x.f }

theorem calm_holder {x y : XState} (h : calm x = calm y) : x.holder = y.holder :=
  (congrArg XState.holder h :)

theorem calm_inj {x y : XState} (h : calm x = calm y) :
    x.cur = y.cur ∧ x.trace = y.trace ∧ x.holder = y.holder ∧ x.waiters = y.waiters ∧
      x.created = y.created ∧ x.cuts = y.cuts ∧ x.now = y.now ∧ calmF x.f = calmF y.f :=
  ⟨(congrArg XState.cur h :), (congrArg XState.trace h :), calm_holder h, (congrArg XState.waiters h :),
    (congrArg XState.created h :), (congrArg XState.cuts h :), (congrArg XState.now h :),
    (congrArg XState.f h :)⟩

theorem cur_calm (x : XState) : (calm x).cur = x.cur := rfl
theorem holder_calm (x : XState) : (calm x).holder = x.holder := rfl
theorem waiters_calm (x : XState) : (calm x).waiters = x.waiters := rfl
theorem created_calm (x : XState) : (calm x).created = x.created := rfl

variable (cfg : Cfg)

theorem dispatchOn_calm (x : XState) (c : Call) : dispatchOn cfg (calm x) c = dispatchOn cfg x c := rfl

theorem blocks_calmF (f : Fields) (e : Eff) : blocks cfg (calmF f) e = blocks cfg f e := by
  cases e <;> rfl

theorem applyEff_calmF (c : Call) (now : Nat) (f : Fields) (e : Eff) :
    applyEff cfg c now (calmF f) e = calmF (applyEff cfg c now f e) := by
  cases e with
  | removeLocalFile =>
    unfold applyEff
    cases cfg.dir with
    | upload => rfl
    | download =>
      show (if f.localPath = true then _ else _) = calmF (if f.localPath = true then _ else _)
      cases f.localPath <;> rfl
  | setCompleteTime =>
    show (if f.startTime.isSome = true then _ else _) = calmF (if f.startTime.isSome = true then _ else _)
    cases f.startTime.isSome <;> rfl
  | _ => rfl

theorem notifyFrom_calm (c : Call) (old : St) (gs : List Bool) (pos : Nat) (x : XState) :
    notifyFrom c old gs pos (calm x) = calm (notifyFrom c old gs pos x) := by
  induction gs generalizing pos x with
  | nil => rfl
  | cons g gs ih =>
    unfold notifyFrom
    dsimp only
    rw [apply_ite calm, ← ih]
    rfl

theorem runEffs_calm (c : Call) (t : St) (effs : List Eff) (force : Bool) (x : XState) :
    runEffs cfg c t effs force (calm x) = calm (runEffs cfg c t effs force x) := by
  induction effs generalizing force x with
  | nil => unfold runEffs; rw [← notifyFrom_calm]; rfl
  | cons e es ih =>
    unfold runEffs
    rw [apply_ite calm, ← ih]
    simp only [calm, blocks_calmF, applyEff_calmF]

theorem grant_calm (c : Call) (x : XState) : grant cfg c (calm x) = calm (grant cfg c x) := by
  unfold grant
  rw [dispatchOn_calm]
  split
  · rfl
  · exact runEffs_calm ..

theorem drain_calm (cs : List Call) (x : XState) : drain cfg cs (calm x) = calm (drain cfg cs x) := by
  induction cs generalizing x with
  | nil => rfl
  | cons c cs ih =>
    unfold drain
    dsimp only
    rw [grant_calm, holder_calm]
    split
    · rfl
    · exact ih _

theorem finish_calm (x : XState) : finish cfg (calm x) = calm (finish cfg x) := by
  unfold finish
  rw [holder_calm]
  split
  · rfl
  · exact drain_calm ..

theorem arrive_calm (c : Call) (x : XState) : arrive cfg c (calm x) = calm (arrive cfg c x) := by
  unfold arrive
  dsimp only
  rw [holder_calm, cur_calm]
  generalize (if c.mgr = true then ({ c with captured := x.cur } : Call) else c) = c'
  split
  · rfl
  · exact drain_calm ..

theorem abandon_calm (p : Pending) (x : XState) : abandon cfg p (calm x) = calm (abandon cfg p x) := by
  unfold abandon
  split
  · rfl
  · split
    · split <;> rfl
    · rfl

theorem resumed_calm (p : Pending) (x : XState) : resumed cfg p (calm x) = calm (resumed cfg p x) := by
  unfold resumed
  rw [apply_ite calm, apply_ite calm, notifyFrom_calm, runEffs_calm]
  rfl

def XOp.isFault : XOp → Bool
  | .fsFault _ => true
  | _ => false

theorem step_calm (x : XState) (op : XOp) (hop : op.isFault = false) (hs : op ≠ .setFile) :
    step cfg (calm x) op = calm (step cfg x op) := by
  cases op with
  | start id =>
    simp only [step]
    rw [created_calm]
    split
    · rfl
    · exact arrive_calm cfg _ { x with created := x.created.filter fun c' => c'.id != id }
  | call c => exact arrive_calm cfg { c with captured := x.cur } x
  | resume =>
    rw [step_resume, step_resume, holder_calm]
    split
    · rfl
    · rw [resumed_calm, finish_calm]
  | cancelCaller id =>
    rw [step_cancelCaller, step_cancelCaller, holder_calm, waiters_calm]
    split
    · rfl
    · split
      · split
        · rfl
        · rw [abandon_calm, finish_calm]
      · split <;> rfl
  | fsFault b => cases hop
  | setFile => exact absurd rfl hs
  | _ => rfl

theorem run_calm_filter (ops : List XOp) {x y : XState} (h : calm x = calm y) :
    calm (run cfg x ops) = calm (run cfg y (ops.filter (fun o => !o.isFault))) := by
  rw [run, run, List.foldl_filter]
  refine List.foldl_rel (r := fun a b => calm a = calm b) h fun op _ a b hab => ?_
  cases hop : op.isFault with
  | false =>
    by_cases hs : op = .setFile
    · -- the file is there: whether it was is forgotten on both sides
      subst hs
      exact congrArg (fun z : XState => { z with f := { z.f with localPath := true } }) hab
    · simp only [Bool.not_false, if_true]
      rw [← step_calm cfg a op hop hs, ← step_calm cfg b op hop hs, hab]
  | true =>
    -- the fault itself changes nothing but the fact it is
    cases op with
    | fsFault _ => exact hab
    | _ => cases hop

end AioslskVerif.Transfer
