import AioslskVerif.Model.Track
import AioslskVerif.Proofs.TrackLog
/-! The per-user invariant `UInv` of C15, preserved by every step: restated over plain values (`Hist`, `Ctl`), proved
move by move of the worker (`worker_cases`). -/
namespace AioslskVerif.Track
open AioslskVerif.Generated.Track

@[simp] theorem Flags.remove_empty_left (f : Flags) : Flags.empty.remove f = Flags.empty := by
  simp [Flags.remove, Flags.empty]

@[simp] theorem Flags.add_empty_right (f : Flags) : f.add Flags.empty = f := by
  cases f; simp [Flags.add, Flags.empty]

theorem specFlagsFrom_append (f : Flags) (rs : List Req) (r : Req) :
    specFlagsFrom f (rs ++ [r]) = r.apply (specFlagsFrom f rs) := by
  simp [specFlagsFrom, List.foldl_append]

theorem specFlags_append (rs : List Req) (r : Req) : specFlags (rs ++ [r]) = r.apply (specFlags rs) :=
  specFlagsFrom_append _ _ _

@[simp] theorem specFlags_nil : specFlags [] = Flags.empty := rfl
@[simp] theorem specFrames_nil : specFrames [] = [] := rfl

theorem specFramesFrom_append (f : Flags) (rs : List Req) (r : Req) :
    specFramesFrom f (rs ++ [r]) = specFramesFrom f rs ++ edge (specFlagsFrom f rs) r := by
  induction rs generalizing f with
  | nil => simp [specFramesFrom, specFlagsFrom]
  | cons a rs ih =>
    simp only [List.cons_append, specFramesFrom, ih, List.append_assoc]
    rfl

theorem specFrames_append (rs : List Req) (r : Req) :
    specFrames (rs ++ [r]) = specFrames rs ++ edge (specFlags rs) r :=
  specFramesFrom_append _ _ _

theorem edge_of_withdrawn {f : Flags} {r : Req} (h1 : f ≠ Flags.empty) (h2 : r.apply f = Flags.empty) :
    edge f r = [.removeUser] := by
  rw [edge, if_pos h2, if_pos h1]

theorem edge_of_first {f : Flags} {r : Req} (h1 : f = Flags.empty) (h2 : r.apply f ≠ Flags.empty) :
    edge f r = [.addUser] := by
  rw [edge, if_neg h2, if_pos h1]

theorem edge_of_same {f : Flags} {r : Req} (h : f = Flags.empty ↔ r.apply f = Flags.empty) : edge f r = [] := by
  by_cases h1 : f = Flags.empty
  · rw [edge, if_pos (h.mp h1), if_neg (not_not_intro h1)]
  · rw [edge, if_neg (mt h.mpr h1), if_neg h1]

theorem edge_last (pre : List Frame) (f : Flags) (r : Req)
    (h : pre.getLast? = some .addUser ↔ f ≠ Flags.empty) :
    ((pre ++ edge f r).getLast? = some .addUser ↔ r.apply f ≠ Flags.empty) := by
  by_cases h0 : f = Flags.empty <;> by_cases h1 : r.apply f = Flags.empty
  · rw [edge_of_same (iff_of_true h0 h1), List.append_nil]
    exact h.trans (not_congr (iff_of_true h0 h1))
  · rw [edge_of_first h0 h1, List.getLast?_concat]
    exact iff_of_true rfl h1
  · rw [edge_of_withdrawn h0 h1, List.getLast?_concat]
    exact iff_of_false nofun (fun h => h h1)
  · rw [edge_of_same (iff_of_false h0 h1), List.append_nil]
    exact h.trans (not_congr (iff_of_false h0 h1))

theorem specFramesFrom_last (rs : List Req) : ∀ (f : Flags) (pre : List Frame),
    (pre.getLast? = some .addUser ↔ f ≠ Flags.empty) →
    ((pre ++ specFramesFrom f rs).getLast? = some .addUser ↔ specFlagsFrom f rs ≠ Flags.empty) := by
  induction rs with
  | nil => intro f pre h; simpa [specFramesFrom, specFlagsFrom] using h
  | cons r rs ih =>
    intro f pre h
    have := ih (r.apply f) (pre ++ edge f r) (edge_last pre f r h)
    simpa [specFramesFrom, specFlagsFrom, List.append_assoc] using this

theorem specFrames_last (rs : List Req) :
    (specFrames rs).getLast? = some .addUser ↔ specFlags rs ≠ Flags.empty := by
  have := specFramesFrom_last rs Flags.empty [] (by simp)
  simpa [specFrames, specFlags] using this

/-- The invariant of one user name at tick `now` (`inv_reach`): no request is lost; reasons and AddUser / RemoveUser
attempts are the fold of the requests applied; where the worker is parked and which retry is pending fit the last event
of the log (`pcAdd` … `noEnt`). -/
structure UInv (now : Nat) (U : User) : Prop where
  lost : U.processed ++ U.queue = U.issued
  flags : U.flagsOf = specFlags U.processed
  frames : collapse U.frames = specFrames U.processed
  wire : U.frames.getLast? = some .addUser ↔ U.flagsOf ≠ Flags.empty
  finLt : ∀ g ∈ U.finished, g < U.nextGen
  genLt : ∀ e, U.entry = some e → e.gen < U.nextGen ∧ e.gen ∉ U.finished
  pcAdd : ∀ e, U.entry = some e → (e.pc = .sendAdd ∨ ∃ d, e.pc = .waitResp d) →
    e.flags ≠ Flags.empty ∧ ∃ t, U.log.getLast? = some (.add t)
  pcRem : ∀ e, U.entry = some e → e.pc = .sendRemove →
    e.flags = Flags.empty ∧ e.retry = none ∧ e.live = none ∧ U.log.getLast? = some .remove
  retry : ∀ e t, U.entry = some e → e.retry = some t →
    e.flags ≠ Flags.empty ∧ t.armedAt ≤ now ∧ (t.delay = retryNetError ∨ t.delay = retryNonExisting) ∧
    e.pc = .idle ∧ e.live = none ∧ U.log.getLast? = some (.fail t.due)
  live : ∀ e k, U.entry = some e → e.live = some k →
    e.flags ≠ Flags.empty ∧ e.pc = .idle ∧ e.retry = none ∧ ∃ due, U.log.getLast? = some (.fail due) ∧ due ≤ now
  idle : ∀ e, U.entry = some e → e.pc = .idle →
    ((e.flags = Flags.empty ↔ e.state = .untracked) ∧
     (e.flags ≠ Flags.empty → (e.state = .tracked ↔ U.outcomes.getLast? = some .exists)) ∧
     (e.flags = Flags.empty → (U.log.getLast? = none ∨ U.log.getLast? = some .remove)) ∧
     (e.flags ≠ Flags.empty →
        ((e.state = .tracked ∧ U.log.getLast? = some .ok) ∨
         (e.state = .retryPending ∧ ∃ due, U.log.getLast? = some (.fail due)))))
  noEnt : U.entry = none → (U.log.getLast? = none ∨ U.log.getLast? = some .remove)
  count : U.fired + U.pending ≤ U.failed
  logJ : Justified U.log = true
  logF : framesOf U.log = U.frames

theorem UInv.mono {now now' : Nat} {U : User} (h : UInv now U) (hle : now ≤ now') : UInv now' U := by
  refine { h with retry := ?_, live := ?_ }
  · intro e t he ht
    have := h.retry e t he ht
    exact ⟨this.1, Nat.le_trans this.2.1 hle, this.2.2⟩
  · intro e k he hk
    obtain ⟨h1, h2, h3, due, h4, h5⟩ := h.live e k he hk
    exact ⟨h1, h2, h3, due, h4, Nat.le_trans h5 hle⟩

/-! `UInv` reads the user through `queue`, `flagsOf`, `pending` and quantifies over the entry in every clause. The
preservation proofs work on plain values: `Hist` for the clauses about the histories, `Ctl` for those about where
the worker stands. `UInv.hist` and `UInv.ent` lead there, `UInv.ofParts` back. -/

/-- the clauses `lost`, `flags`, `frames`, `logJ`, `logF` of `UInv`, of the requests applied `p`, queued `q` and made
`i`, the reasons `f` held, the attempts `fr` and the log `l`; the clause `wire` follows (`Hist.wire`) -/
structure Hist (p q i : List Req) (f : Flags) (fr : List Frame) (l : List Ev) : Prop where
  lost : p ++ q = i
  flags : f = specFlags p
  frames : collapse fr = specFrames p
  logJ : Justified l = true
  logF : framesOf l = fr

namespace Hist
variable {p q i : List Req} {f : Flags} {fr : List Frame} {l : List Ev} {r : Req}

theorem nil : Hist [] [] [] Flags.empty [] [] := ⟨rfl, rfl, rfl, rfl, rfl⟩

theorem wire (h : Hist p q i f fr l) : fr.getLast? = some .addUser ↔ f ≠ Flags.empty := by
  rw [← collapse_last, h.frames, specFrames_last, ← h.flags]

theorem enqueue (h : Hist p q i f fr l) (r : Req) : Hist p (q ++ [r]) (i ++ [r]) f fr l :=
  { h with lost := by rw [← List.append_assoc, h.lost] }

theorem log (h : Hist p q i f fr l) {x : Ev} (hj : x.okAfter l.getLast? = true) :
    Justified (l ++ [x]) = true ∧ framesOf (l ++ [x]) = fr ++ framesOf [x] :=
  ⟨by rw [justified_append, h.logJ, hj]; rfl, by rw [framesOf_append, h.logF]⟩

theorem note (h : Hist p q i f fr l) {x : Ev} (hx : framesOf [x] = []) (hj : x.okAfter l.getLast? = true) :
    Hist p q i f fr (l ++ [x]) :=
  { h with logJ := (h.log hj).1, logF := by rw [(h.log hj).2, hx, List.append_nil] }

/-- the worker applies the first request queued: what it sends has to fit the edge -/
theorem take (h : Hist p (r :: q) i f fr l) {f' : Flags} {fr' : List Frame} {l' : List Ev} (ha : r.apply f = f')
    (hc : collapse fr' = collapse fr ++ edge f r) (hJ : Justified l' = true) (hF : framesOf l' = fr') :
    Hist (p ++ [r]) q i f' fr' l' where
  lost := by rw [List.append_assoc]; exact h.lost
  flags := by rw [specFlags_append, ← h.flags, ha]
  frames := by rw [specFrames_append, ← h.flags, ← h.frames, hc]
  logJ := hJ
  logF := hF

theorem takeQuiet (h : Hist p (r :: q) i f fr l) {f' : Flags} (ha : r.apply f = f')
    (hf : f = Flags.empty ↔ f' = Flags.empty) : Hist (p ++ [r]) q i f' fr l :=
  h.take ha (by rw [edge_of_same (ha ▸ hf), List.append_nil]) h.logJ h.logF

theorem takeRemove (h : Hist p (r :: q) i f fr l) (hf : f ≠ Flags.empty) (ha : r.apply f = Flags.empty)
    (hj : Ev.remove.okAfter l.getLast? = true) :
    Hist (p ++ [r]) q i Flags.empty (fr ++ [.removeUser]) (l ++ [.remove]) :=
  h.take ha (by rw [collapse_append_remove, edge_of_withdrawn hf ha]) (h.log hj).1 (h.log hj).2

theorem takeAdd (h : Hist p (r :: q) i f fr l) (ha : r.apply f ≠ Flags.empty) (t : Nat)
    (hj : (Ev.add t).okAfter l.getLast? = true) :
    Hist (p ++ [r]) q i (r.apply f) (fr ++ [.addUser]) (l ++ [.add t]) := by
  refine h.take rfl ?_ (h.log hj).1 (h.log hj).2
  -- the first attempt when there was no reason before (an edge); otherwise a repetition, which `collapse` drops:
  -- the last attempt was an AddUser
  by_cases h0 : f = Flags.empty
  · rw [edge_of_first h0 ha, collapse_append_add_of_not_last fr (fun hl => h.wire.mp hl h0)]
  · rw [edge_of_same (iff_of_false h0 ha), List.append_nil, collapse_append_add_of_last fr (h.wire.mpr h0)]

end Hist

/-- The clauses `pcAdd`, `pcRem`, `retry`, `live`, `idle` of `UInv` as the seven situations they allow for an entry
with reasons `fl`, state `st`, parked at `pc`, with retry task `rt` and remembered retry request `lv`, when `last` is
the last event of the log and `out` the last outcome. -/
inductive Ctl (now : Nat) (last : Option Ev) (out : Option Outcome) :
    Flags → TState → PC → Option Timer → Option Nat → Prop
  | unasked : (last = none ∨ last = some .remove) → Ctl now last out Flags.empty .untracked .idle none none
  | tracked {fl} : fl ≠ Flags.empty → last = some .ok → out = some .exists →
      Ctl now last out fl .tracked .idle none none
  /-- the last attempt failed and its retry task sleeps -/
  | armed {fl t} : fl ≠ Flags.empty → out ≠ some .exists → last = some (.fail t.due) → t.armedAt ≤ now →
      (t.delay = retryNetError ∨ t.delay = retryNonExisting) → Ctl now last out fl .retryPending .idle (some t) none
  /-- the last attempt failed and no retry task sleeps; a retry request is remembered only after the delay -/
  | fired {fl due lv} : fl ≠ Flags.empty → out ≠ some .exists → last = some (.fail due) →
      (∀ k, lv = some k → due ≤ now) → Ctl now last out fl .retryPending .idle none lv
  | sendAdd {fl st t} : fl ≠ Flags.empty → last = some (.add t) → Ctl now last out fl st .sendAdd none none
  | waitResp {fl st t d} : fl ≠ Flags.empty → last = some (.add t) → Ctl now last out fl st (.waitResp d) none none
  | sendRemove {st} : last = some .remove → Ctl now last out Flags.empty st .sendRemove none none

namespace Ctl
variable {now : Nat} {last : Option Ev} {out : Option Outcome} {fl : Flags} {st : TState} {pc : PC}
  {rt : Option Timer} {lv : Option Nat}

theorem adding (h : Ctl now last out fl st pc rt lv) (hpc : pc = .sendAdd ∨ ∃ d, pc = .waitResp d) :
    fl ≠ Flags.empty ∧ rt = none ∧ lv = none ∧ ∃ t, last = some (.add t) := by
  rcases hpc with rfl | ⟨d, rfl⟩
  · cases h with | sendAdd hf hl => exact ⟨hf, rfl, rfl, _, hl⟩
  · cases h with | waitResp hf hl => exact ⟨hf, rfl, rfl, _, hl⟩

theorem removing (h : Ctl now last out fl st pc rt lv) (hpc : pc = .sendRemove) :
    fl = Flags.empty ∧ rt = none ∧ lv = none ∧ last = some .remove := by
  cases hpc
  cases h with | sendRemove hl => exact ⟨rfl, rfl, rfl, hl⟩

theorem live {k : Nat} (h : Ctl now last out fl st pc rt lv) (hk : lv = some k) :
    fl ≠ Flags.empty ∧ pc = .idle ∧ rt = none ∧ st = .retryPending ∧ ∃ due, last = some (.fail due) ∧ due ≤ now := by
  cases hk
  cases h with | fired hf _ hl hk => exact ⟨hf, rfl, rfl, rfl, _, hl, hk k rfl⟩

theorem idle_empty (h : Ctl now last out Flags.empty st .idle rt lv) :
    st = .untracked ∧ rt = none ∧ lv = none ∧ (last = none ∨ last = some .remove) := by
  cases h with
  | unasked hl => exact ⟨rfl, rfl, rfl, hl⟩
  | tracked hf => exact absurd rfl hf
  | armed hf => exact absurd rfl hf
  | fired hf => exact absurd rfl hf

theorem idle_answered (h : Ctl now last out fl st .idle rt lv) (hf : fl ≠ Flags.empty) :
    last = some .ok ∨ ∃ due, last = some (.fail due) := by
  cases h with
  | unasked => exact absurd rfl hf
  | tracked _ hl => exact Or.inl hl
  | armed _ _ hl => exact Or.inr ⟨_, hl⟩
  | fired _ _ hl => exact Or.inr ⟨_, hl⟩

theorem idle_reflag (h : Ctl now last out fl st .idle rt lv) (hf : fl ≠ Flags.empty) {fl' : Flags}
    (hf' : fl' ≠ Flags.empty) : Ctl now last out fl' st .idle rt lv := by
  cases h with
  | unasked => exact absurd rfl hf
  | tracked _ hl ho => exact .tracked hf' hl ho
  | armed _ ho hl ha hd => exact .armed hf' ho hl ha hd
  | fired _ ho hl hk => exact .fired hf' ho hl hk

end Ctl

theorem UInv.hist {now : Nat} {U : User} (h : UInv now U) :
    Hist U.processed U.queue U.issued U.flagsOf U.frames U.log :=
  ⟨h.lost, h.flags, h.frames, h.logJ, h.logF⟩

theorem UInv.ctl {now : Nat} {U : User} {e : Entry} (h : UInv now U) (he : U.entry = some e) :
    Ctl now U.log.getLast? U.outcomes.getLast? e.flags e.state e.pc e.retry e.live := by
  have hAdd := h.pcAdd e he
  have hRem := h.pcRem e he
  have hRetry := fun t => h.retry e t he
  have hLive := fun k => h.live e k he
  have hIdle := h.idle e he
  generalize U.log.getLast? = last, U.outcomes.getLast? = out at *
  obtain ⟨g, fl, st, qu, pc, rt, lv⟩ := e
  have failed : pc = .idle → fl ≠ Flags.empty → ∀ due, last = some (.fail due) →
      st = .retryPending ∧ out ≠ some .exists := by
    intro hpc hf due hl
    obtain ⟨_, h2, _, h4⟩ := hIdle hpc
    rcases h4 hf with ⟨_, hl'⟩ | ⟨hs, _⟩
    · rw [hl] at hl'; cases hl'
    · exact ⟨hs, fun ho => by cases (hs : st = _).symm.trans ((h2 hf).mpr ho)⟩
  cases rt with
  | some t =>
    obtain ⟨hf, ha, hd, rfl, rfl, hl⟩ := hRetry t rfl
    obtain ⟨rfl, ho⟩ := failed rfl hf _ hl
    exact .armed hf ho hl ha hd
  | none =>
    cases lv with
    | some k =>
      obtain ⟨hf, rfl, _, due, hl, hle⟩ := hLive k rfl
      obtain ⟨rfl, ho⟩ := failed rfl hf _ hl
      exact .fired hf ho hl fun _ _ => hle
    | none =>
      cases pc with
      | idle =>
        obtain ⟨h1, h2, h3, h4⟩ := hIdle rfl
        by_cases hf : fl = Flags.empty
        · cases (h1.mp hf : st = _); cases hf; exact .unasked (h3 rfl)
        · rcases h4 hf with ⟨rfl, hl⟩ | ⟨_, due, hl⟩
          · exact .tracked hf hl ((h2 hf).mp rfl)
          · obtain ⟨rfl, ho⟩ := failed rfl hf _ hl
            exact .fired hf ho hl nofun
      | sendAdd => obtain ⟨hf, t, hl⟩ := hAdd (Or.inl rfl); exact .sendAdd hf hl
      | waitResp d => obtain ⟨hf, t, hl⟩ := hAdd (Or.inr ⟨d, rfl⟩); exact .waitResp hf hl
      | sendRemove => obtain ⟨rfl, _, _, hl⟩ := hRem rfl; exact .sendRemove hl

/-- the clauses of `UInv` about the entry: `genLt` and those of `Ctl`, or `noEnt` -/
abbrev EntOk (now : Nat) (U : User) : Option Entry → Prop
  | some e => (e.gen < U.nextGen ∧ e.gen ∉ U.finished) ∧
      Ctl now U.log.getLast? U.outcomes.getLast? e.flags e.state e.pc e.retry e.live
  | none => U.log.getLast? = none ∨ U.log.getLast? = some .remove

theorem UInv.ent {now : Nat} {U : User} (h : UInv now U) : EntOk now U U.entry := by
  cases he : U.entry with
  | some e => exact ⟨h.genLt e he, h.ctl he⟩
  | none => exact h.noEnt he

theorem UInv.ofParts {now : Nat} {U : User} (hist : Hist U.processed U.queue U.issued U.flagsOf U.frames U.log)
    (finLt : ∀ g ∈ U.finished, g < U.nextGen) (count : U.fired + U.pending ≤ U.failed)
    (ent : EntOk now U U.entry) : UInv now U := by
  have ctl : ∀ e, U.entry = some e →
      Ctl now U.log.getLast? U.outcomes.getLast? e.flags e.state e.pc e.retry e.live :=
    fun e he => by rw [he] at ent; exact ent.2
  exact {
    lost := hist.lost
    flags := hist.flags
    frames := hist.frames
    wire := hist.wire
    finLt := finLt
    genLt := fun e he => by rw [he] at ent; exact ent.1
    pcAdd := fun e he hpc => let ⟨hf, _, _, ht⟩ := (ctl e he).adding hpc; ⟨hf, ht⟩
    pcRem := fun e he hpc => (ctl e he).removing hpc
    retry := fun e t he ht => by
      obtain ⟨g, fl, st, qu, pc, rt, lv⟩ := e
      cases ht
      cases ctl _ he with
      | armed hf _ hl ha hd => exact ⟨hf, ha, hd, rfl, rfl, hl⟩
    live := fun e k he hk => let ⟨hf, hpc, hrt, _, hd⟩ := (ctl e he).live hk; ⟨hf, hpc, hrt, hd⟩
    idle := fun e he hpc => by
      obtain ⟨g, fl, st, qu, pc, rt, lv⟩ := e
      cases hpc
      cases ctl _ he with
      | unasked hl => exact ⟨iff_of_true rfl rfl, fun h => absurd rfl h, fun _ => hl, fun h => absurd rfl h⟩
      | tracked hf hl ho =>
        exact ⟨iff_of_false hf nofun, fun _ => iff_of_true rfl ho, fun h => absurd h hf, fun _ => Or.inl ⟨rfl, hl⟩⟩
      | armed hf ho hl | fired hf ho hl =>
        exact ⟨iff_of_false hf nofun, fun _ => iff_of_false nofun ho, fun h => absurd h hf, fun _ => Or.inr ⟨rfl, _, hl⟩⟩
    noEnt := fun he => by rw [he] at ent; exact ent
    count := count
    logJ := hist.logJ
    logF := hist.logF }

/-- with the entry written out, `queue`, `flagsOf`, `pending` and `EntOk` compute -/
theorem UInv.withEntry {now : Nat} {U : User} {oe : Option Entry} (h : UInv now U) (he : U.entry = oe) :
    UInv now { U with entry := oe } := by
  cases he
  exact h

theorem UInv.init (now : Nat) : UInv now User.init := .ofParts .nil nofun (Nat.le_refl _) (Or.inl rfl)

theorem UInv.track {now : Nat} {U : User} (h : UInv now U) (f : Flags) : UInv now (U.track f) := by
  unfold User.track
  cases he : U.entry with
  | some e =>
    have w := h.withEntry he
    exact .ofParts (w.hist.enqueue _) w.finLt w.count w.ent
  | none =>
    have w := h.withEntry he
    exact .ofParts (w.hist.enqueue _) (fun g hg => Nat.lt_succ_of_lt (w.finLt g hg)) w.count
      ⟨⟨Nat.lt_succ_self _, fun hg => Nat.lt_irrefl _ (w.finLt _ hg)⟩, .unasked w.ent⟩

theorem UInv.untrack {now : Nat} {U : User} (h : UInv now U) (f : Flags) : UInv now (U.untrack f) := by
  unfold User.untrack
  cases he : U.entry with
  | some e =>
    have w := h.withEntry he
    exact .ofParts (w.hist.enqueue _) w.finLt w.count w.ent
  | none =>
    have w := h.withEntry he
    -- the request is applied on the spot: nothing is withdrawn from no reasons
    exact .ofParts ((w.hist.enqueue _).takeQuiet (Flags.remove_empty_left f) (iff_of_true rfl rfl)) w.finLt w.count
      w.ent

theorem retryFires_cases {motive : User → Prop} (U : User) (now : Nat) (same : motive U)
    (fires : ∀ e t, U.entry = some e → e.retry = some t → t.due ≤ now →
      motive { U with entry := some { e with queue := e.queue ++ [retryReq U.nextRid], retry := none,
                                             live := some U.nextRid },
                      nextRid := U.nextRid + 1, issued := U.issued ++ [retryReq U.nextRid], fired := U.fired + 1 }) :
    motive (U.retryFires now) := by
  unfold User.retryFires
  split
  · exact same
  · next e he =>
    split
    · exact same
    · next t ht =>
      split
      · next hdue => exact fires e t he ht hdue
      · exact same

theorem UInv.retryFires {now : Nat} {U : User} (h : UInv now U) : UInv now (U.retryFires now) := by
  refine retryFires_cases U now h fun e t he ht hdue => ?_
  have w := h.withEntry he
  obtain ⟨g, fl, st, qu, pc, rt, lv⟩ := e
  cases ht
  cases w.ent.2 with
  | armed hf ho hl _ _ =>
    exact .ofParts (w.hist.enqueue _) w.finLt w.count ⟨w.ent.1, .fired hf ho hl fun _ _ => hdue⟩

/-- the done-callback never meets the entry of its own task: that task removed it when it returned -/
theorem reap_of_inv {now : Nat} {U : User} (h : UInv now U) (g : Nat) :
    U.reap g = if g ∈ U.finished then { U with finished := U.finished.erase g } else U := by
  unfold User.reap
  split
  · next hg =>
    cases he : U.entry with
    | none => rfl
    | some e => exact if_neg fun hgen : e.gen = g => (h.genLt e he).2 (hgen ▸ hg)
  · rfl

theorem UInv.reap {now : Nat} {U : User} (h : UInv now U) (g : Nat) : UInv now (U.reap g) := by
  rw [reap_of_inv h]
  split
  · exact { h with
      finLt := fun g' hg' => h.finLt g' (List.mem_of_mem_erase hg')
      genLt := fun e he => ⟨(h.genLt e he).1, fun hm => (h.genLt e he).2 (List.mem_of_mem_erase hm)⟩ }
  · exact h

theorem UInv.close {now : Nat} {U : User} (h : UInv now U) : UInv now U.close := by
  refine .ofParts .nil ?_ (Nat.le_refl _) (Or.inl rfl)
  show ∀ g ∈ (match U.entry with | some e => e.gen :: U.finished | none => U.finished), g < U.nextGen
  cases he : U.entry with
  | none => exact h.finLt
  | some e => exact List.forall_mem_cons.mpr ⟨(h.genLt e he).1, h.finLt⟩

theorem UInv.sendOk {now : Nat} {U : User} {e : Entry} (h : UInv now U) (he : U.entry = some e)
    (hpc : e.pc = .sendAdd) (d : Nat) : UInv now { U with entry := some { e with pc := .waitResp d } } := by
  have w := h.withEntry he
  obtain ⟨g, fl, st, qu, pc, rt, lv⟩ := e
  obtain ⟨hf, rfl, rfl, t, hl⟩ := w.ent.2.adding (Or.inl hpc)
  exact .ofParts w.hist w.finLt w.count ⟨w.ent.1, .waitResp hf hl⟩

theorem UInv.failAttempt {now : Nat} {U : User} {e : Entry} (h : UInv now U) (he : U.entry = some e)
    (hpc : e.pc = .sendAdd ∨ ∃ d, e.pc = .waitResp d) (o : Outcome) (ho : o ≠ .exists) (delay : Nat)
    (hd : delay = retryNetError ∨ delay = retryNonExisting) : UInv now (U.failAttempt e now o delay) := by
  have w := h.withEntry he
  obtain ⟨g, fl, st, qu, pc, rt, lv⟩ := e
  obtain ⟨hf, rfl, rfl, t, hl⟩ := w.ent.2.adding hpc
  have hout : (U.outcomes ++ [o]).getLast? ≠ some .exists := by
    rw [List.getLast?_concat]; exact fun ho' => ho (Option.some.inj ho')
  exact .ofParts (w.hist.note rfl (by rw [hl]; rfl)) w.finLt (Nat.succ_le_succ w.count)
    ⟨w.ent.1, .armed hf hout List.getLast?_concat (Nat.le_refl now) hd⟩

theorem UInv.succeed {now : Nat} {U : User} {e : Entry} (h : UInv now U) (he : U.entry = some e)
    (hpc : ∃ d, e.pc = .waitResp d) : UInv now (U.succeed e) := by
  have w := h.withEntry he
  obtain ⟨g, fl, st, qu, pc, rt, lv⟩ := e
  obtain ⟨hf, rfl, rfl, t, hl⟩ := w.ent.2.adding (Or.inr hpc)
  exact .ofParts (w.hist.note rfl (by rw [hl]; rfl)) w.finLt w.count
    ⟨w.ent.1, .tracked hf List.getLast?_concat List.getLast?_concat⟩

theorem UInv.afterRemove {now : Nat} {U : User} {e : Entry} (h : UInv now U) (he : U.entry = some e)
    (hpc : e.pc = .sendRemove) : UInv now (U.afterRemove e) := by
  have w := h.withEntry he
  obtain ⟨g, fl, st, qu, pc, rt, lv⟩ := e
  obtain ⟨rfl, rfl, rfl, hl⟩ := w.ent.2.removing hpc
  unfold User.afterRemove User.loopOrExit
  split
  · next hq =>
    -- nothing is queued: the worker returns and takes its entry with it
    cases (hq : qu = [])
    exact .ofParts w.hist (List.forall_mem_cons.mpr ⟨w.ent.1.1, w.finLt⟩) w.count (Or.inr hl)
  · exact .ofParts w.hist w.finLt w.count ⟨w.ent.1, .unasked (Or.inr hl)⟩

theorem honours_live {e : Entry} {r : Req} (h : e.honours r = true) : ∃ k, e.live = some k := by
  unfold Entry.honours at h
  split at h
  · next k _ => exact ⟨k, beq_iff_eq.mp h⟩
  · cases h

theorem UInv.take {now : Nat} {U : User} {e : Entry} {r : Req} {q : List Req} (h : UInv now U)
    (he : U.entry = some e) (hpc : e.pc = .idle) (hq : e.queue = r :: q) : UInv now (U.take now e r q) := by
  have w := h.withEntry he
  have hhon : e.honours r = true → ∃ k, e.live = some k := honours_live
  obtain ⟨g, fl, st, qu, pc, rt, lv⟩ := e
  cases hpc; cases hq
  have hist : Hist U.processed (r :: q) U.issued fl U.frames U.log := w.hist
  have ctl : Ctl now U.log.getLast? U.outcomes.getLast? fl st .idle rt lv := w.ent.2
  have gen := w.ent.1
  unfold User.take
  simp only []
  generalize Entry.honours _ r = hon at hhon ⊢
  by_cases hB : fl = Flags.empty
  · cases hB
    obtain ⟨rfl, rfl, rfl, hl⟩ := ctl.idle_empty
    by_cases hA : r.apply Flags.empty = Flags.empty
    · rw [if_pos hA, hA, if_neg (not_not_intro rfl)]
      have hist' := hist.takeQuiet hA (iff_of_true rfl rfl)
      unfold User.loopOrExit
      split
      · next hq =>
        cases (hq : q = [])
        exact .ofParts hist' (List.forall_mem_cons.mpr ⟨gen.1, w.finLt⟩) w.count hl
      · exact .ofParts hist' w.finLt w.count ⟨gen, .unasked hl⟩
    · rw [if_neg hA, if_pos (Or.inl rfl), ite_self]
      have hj : (Ev.add now).okAfter U.log.getLast? = true := by rcases hl with hl | hl <;> rw [hl] <;> rfl
      exact .ofParts (hist.takeAdd hA now hj) w.finLt w.count ⟨gen, .sendAdd hA List.getLast?_concat⟩
  · by_cases hA : r.apply fl = Flags.empty
    · rw [if_pos hA, hA, if_pos hB]
      have hj : Ev.remove.okAfter U.log.getLast? = true := by
        rcases ctl.idle_answered hB with hl | ⟨due, hl⟩ <;> rw [hl] <;> rfl
      exact .ofParts (hist.takeRemove hB hA hj) w.finLt (Nat.le_trans (Nat.le_add_right _ _) w.count)
        ⟨gen, .sendRemove List.getLast?_concat⟩
    · rw [if_neg hA]
      cases hon with
      | true =>
        -- the pending retry, its delay over: AddUser again
        obtain ⟨k, hk⟩ := hhon rfl
        obtain ⟨_, _, rfl, _, due, hl, hle⟩ := ctl.live hk
        cases hk
        rw [if_pos (Or.inr rfl), if_pos rfl]
        exact .ofParts (hist.takeAdd hA now (by rw [hl]; exact decide_eq_true hle)) w.finLt w.count
          ⟨gen, .sendAdd hA List.getLast?_concat⟩
      | false =>
        -- a reason among others, or a retry request that is not the pending one: nothing is sent
        rw [if_neg (fun h => h.elim hB nofun), if_neg nofun]
        exact .ofParts (hist.takeQuiet rfl (iff_of_false hB hA)) w.finLt w.count ⟨gen, ctl.idle_reflag hB hA⟩

/-- how an AddUser attempt fails: what the network did, the outcome recorded, the delay of the retry
(`_request_tracking`, 615-657) -/
inductive Fails : Env → Outcome → Nat → Prop
  | sendFail : Fails .sendFail .sendFail delaySendFail
  | notExists : Fails .notExists .notExists delayNotExists
  | error : Fails .error .error delayError
  | timeout : Fails .timeout .timeout delayTimeout

/-- every failure branch returns one of the two module constants (regenerated) -/
theorem Fails.documented {env : Env} {o : Outcome} {d : Nat} (h : Fails env o d) :
    o ≠ .exists ∧ (d = retryNetError ∨ d = retryNonExisting) := by
  cases h <;> exact ⟨nofun, by decide⟩

theorem worker_cases {motive : User → Prop} (U : User) (now : Nat) (env : Env) (same : motive U)
    (take : ∀ e r q, U.entry = some e → e.pc = .idle → e.queue = r :: q → motive (U.take now e r q))
    (sendOk : ∀ e, U.entry = some e → e.pc = .sendAdd →
      motive { U with entry := some { e with pc := .waitResp (now + responseTimeout * tps) } })
    (fail : ∀ e o d, U.entry = some e → (e.pc = .sendAdd ∨ ∃ dl, e.pc = .waitResp dl) → Fails env o d →
      motive (U.failAttempt e now o d))
    (succeed : ∀ e, U.entry = some e → (∃ dl, e.pc = .waitResp dl) → motive (U.succeed e))
    (afterRemove : ∀ e, U.entry = some e → e.pc = .sendRemove → motive (U.afterRemove e)) :
    motive (U.worker now env) := by
  unfold User.worker
  split
  · exact same
  · next e he =>
    split
    · split
      · exact same
      · next r q hq => exact take e r q he ‹_› hq
    · exact sendOk e he ‹_›
    · exact fail e _ _ he (Or.inl ‹_›) .sendFail
    · exact succeed e he ⟨_, ‹_›⟩
    · exact fail e _ _ he (Or.inr ⟨_, ‹_›⟩) .notExists
    · exact fail e _ _ he (Or.inr ⟨_, ‹_›⟩) .error
    · split
      · exact fail e _ _ he (Or.inr ⟨_, ‹_›⟩) .timeout
      · exact same
    · exact afterRemove e he ‹_›
    · exact afterRemove e he ‹_›
    · exact same

theorem UInv.worker {now : Nat} {U : User} (h : UInv now U) (env : Env) : UInv now (U.worker now env) :=
  worker_cases U now env h (fun _ _ _ he hpc hq => h.take he hpc hq) (fun _ he hpc => h.sendOk he hpc _)
    (fun _ _ _ he hpc hk => h.failAttempt he hpc _ hk.documented.1 _ hk.documented.2)
    (fun _ he hpc => h.succeed he hpc) (fun _ he hpc => h.afterRemove he hpc)

theorem loopOrExit_ghost (U : User) (e : Entry) :
    (U.loopOrExit e).issued = U.issued ∧ (U.loopOrExit e).fired = U.fired := by
  unfold User.loopOrExit
  split <;> exact ⟨rfl, rfl⟩

theorem take_ghost (U : User) (now : Nat) (e : Entry) (r : Req) (q : List Req) :
    (U.take now e r q).issued = U.issued ∧ (U.take now e r q).fired = U.fired := by
  unfold User.take
  simp only []
  split
  · split
    · exact ⟨rfl, rfl⟩
    · exact loopOrExit_ghost _ _
  · split <;> exact ⟨rfl, rfl⟩

theorem worker_ghost (U : User) (now : Nat) (env : Env) :
    (U.worker now env).issued = U.issued ∧ (U.worker now env).fired = U.fired :=
  worker_cases (motive := fun U' => U'.issued = U.issued ∧ U'.fired = U.fired) U now env ⟨rfl, rfl⟩
    (fun _ _ _ _ _ _ => take_ghost ..) (fun _ _ _ => ⟨rfl, rfl⟩) (fun _ _ _ _ _ _ => ⟨rfl, rfl⟩)
    (fun _ _ _ => ⟨rfl, rfl⟩) (fun _ _ _ => loopOrExit_ghost ..)

theorem reap_ghost (U : User) (g : Nat) : (U.reap g).issued = U.issued ∧ (U.reap g).fired = U.fired := by
  unfold User.reap
  split
  · split
    · split <;> exact ⟨rfl, rfl⟩
    · exact ⟨rfl, rfl⟩
  · exact ⟨rfl, rfl⟩

theorem loopOrExit_retry {U : User} {e e' : Entry} (h : (U.loopOrExit e).entry = some e') : e'.retry = e.retry := by
  unfold User.loopOrExit at h
  split at h
  · cases h
  · cases h; rfl

theorem take_retry {U : User} {now : Nat} {e e' : Entry} {r : Req} {q : List Req}
    (h : (U.take now e r q).entry = some e') : e'.retry = none ∨ e'.retry = e.retry := by
  unfold User.take at h
  simp only [] at h
  split at h
  · split at h
    · cases h; exact Or.inl rfl
    · exact Or.inl (loopOrExit_retry h)
  · split at h <;> cases h <;> exact Or.inr rfl

/-- only a failed attempt starts a retry task -/
theorem worker_retry {U : User} {now : Nat} {env : Env} {e e' : Entry} (he : U.entry = some e)
    (he' : (U.worker now env).entry = some e') :
    e'.retry = none ∨ e'.retry = e.retry ∨ ∃ o d, Fails env o d ∧ e'.retry = some ⟨now, d⟩ := by
  refine worker_cases (motive := fun U' => U'.entry = some e' → _) U now env ?same ?take ?sendOk ?fail ?succeed
    ?afterRemove he'
  case same => intro h; cases he.symm.trans h; exact Or.inr (Or.inl rfl)
  case take => intro e0 r q he0 _ _ h; cases he.symm.trans he0; exact (take_retry h).imp_right Or.inl
  case sendOk => intro e0 he0 _ h; cases he.symm.trans he0; cases h; exact Or.inr (Or.inl rfl)
  case fail => intro e0 o d _ _ hk h; cases h; exact Or.inr (Or.inr ⟨o, d, hk, rfl⟩)
  case succeed => intro e0 he0 _ h; cases he.symm.trans he0; cases h; exact Or.inr (Or.inl rfl)
  case afterRemove =>
    intro e0 he0 _ h
    cases he.symm.trans he0
    exact Or.inr (Or.inl (loopOrExit_retry (e := { e with state := .untracked }) h))

/-- the retry requests among the requests made are exactly the firings of `_request_retry` -/
def RInv (U : User) : Prop := (U.issued.filter Req.isRetry).length = U.fired

theorem RInv.of_ghost {U U' : User} (h : RInv U) (hg : U'.issued = U.issued ∧ U'.fired = U.fired) : RInv U' := by
  unfold RInv
  rw [hg.1, hg.2]
  exact h

theorem RInv.track {U : User} (h : RInv U) (f : Flags) : RInv (U.track f) := by
  unfold RInv at *
  unfold User.track
  cases he : U.entry <;> simp [List.filter_append, Req.isRetry, Req.call, h]

theorem RInv.untrack {U : User} (h : RInv U) (f : Flags) : RInv (U.untrack f) := by
  unfold RInv at *
  unfold User.untrack
  cases he : U.entry <;> simp [List.filter_append, Req.isRetry, Req.call, h]

theorem RInv.worker {U : User} (h : RInv U) (now : Nat) (env : Env) : RInv (U.worker now env) :=
  h.of_ghost (worker_ghost U now env)

theorem RInv.retryFires {U : User} (h : RInv U) (now : Nat) : RInv (U.retryFires now) := by
  refine retryFires_cases U now h fun e t _ _ _ => ?_
  show ((U.issued ++ [retryReq U.nextRid]).filter Req.isRetry).length = U.fired + 1
  rw [List.filter_append, List.length_append, (h : _ = U.fired)]
  rfl

theorem RInv.reap {U : User} (h : RInv U) (g : Nat) : RInv (U.reap g) := h.of_ghost (reap_ghost U g)

theorem RInv.close (U : User) : RInv U.close := rfl

theorem forall_upd {P : User → Prop} {s : State} (h : ∀ v, P (s.users v)) (u : Nat) {U : User} (hU : P U) (v : Nat) :
    P ((s.upd u U).users v) := by
  show P (if v = u then U else s.users v)
  split
  · exact hU
  · exact h v

def Inv (s : State) : Prop := ∀ u, UInv s.now (s.users u) ∧ RInv (s.users u)

theorem Inv.init : Inv State.init := fun _ => ⟨UInv.init _, rfl⟩

theorem Inv.step {s : State} (h : Inv s) (op : Op) : Inv (step s op) := by
  have upd (u : Nat) {U : User} (hU : UInv s.now U ∧ RInv U) : Inv (s.upd u U) :=
    forall_upd (P := fun U => UInv s.now U ∧ RInv U) h u hU
  cases op with
  | track u f => exact upd u ⟨(h u).1.track f, (h u).2.track f⟩
  | untrack u f => exact upd u ⟨(h u).1.untrack f, (h u).2.untrack f⟩
  | workerStep u env => exact upd u ⟨(h u).1.worker env, (h u).2.worker s.now env⟩
  | reap u g => exact upd u ⟨(h u).1.reap g, (h u).2.reap g⟩
  | retryFires u => exact upd u ⟨(h u).1.retryFires, (h u).2.retryFires s.now⟩
  | serverClosed => exact fun v => ⟨(h v).1.close, RInv.close _⟩
  | advance dt => exact fun v => ⟨(h v).1.mono (Nat.le_add_right _ _), (h v).2⟩

theorem Inv.run {s : State} (h : Inv s) (ops : List Op) : Inv (run s ops) :=
  List.foldlRecOn (motive := Inv) ops Track.step h fun _ hs op _ => hs.step op

theorem inv_reach (ops : List Op) (u : Nat) : UInv (run State.init ops).now ((run State.init ops).users u) :=
  (Inv.init.run ops u).1

theorem rinv_reach (ops : List Op) (u : Nat) : RInv ((run State.init ops).users u) := (Inv.init.run ops u).2

theorem run_cons (s : State) (op : Op) (ops : List Op) : run s (op :: ops) = run (step s op) ops := rfl

theorem run_append (s : State) (a b : List Op) : run s (a ++ b) = run (run s a) b := List.foldl_append

/-- no entry, empty history: the user after `_on_state_changed(CLOSED)`, until somebody calls (`dropped_run`) -/
def Dropped (U : User) : Prop :=
  U.entry = none ∧ U.issued = [] ∧ U.processed = [] ∧ U.frames = [] ∧ U.events = [] ∧ U.outcomes = [] ∧ U.log = []

theorem Dropped.close (U : User) : Dropped U.close := ⟨rfl, rfl, rfl, rfl, rfl, rfl, rfl⟩

theorem Dropped.worker {U : User} (h : Dropped U) (now : Nat) (env : Env) : U.worker now env = U := by
  unfold User.worker; rw [h.1]

theorem Dropped.retryFires {U : User} (h : Dropped U) (now : Nat) : U.retryFires now = U := by
  unfold User.retryFires; rw [h.1]

theorem Dropped.reap {U : User} (h : Dropped U) (g : Nat) : Dropped (U.reap g) := by
  unfold User.reap
  rw [h.1]
  split
  · exact ⟨rfl, h.2⟩
  · exact h

theorem dropped_step {s : State} (h : ∀ u, Dropped (s.users u)) (op : Op) (hop : op.isCall = false) :
    ∀ u, Dropped ((step s op).users u) := by
  cases op with
  | track u f => cases hop
  | untrack u f => cases hop
  | workerStep u env => exact forall_upd h u (((h u).worker s.now env).symm ▸ h u)
  | reap u g => exact forall_upd h u ((h u).reap g)
  | retryFires u => exact forall_upd h u (((h u).retryFires s.now).symm ▸ h u)
  | serverClosed => exact fun _ => Dropped.close _
  | advance dt => exact h

theorem dropped_run {s : State} (h : ∀ u, Dropped (s.users u)) (ops : List Op)
    (hops : ∀ op ∈ ops, op.isCall = false) : ∀ u, Dropped ((run s ops).users u) :=
  List.foldlRecOn (motive := fun s : State => ∀ u, Dropped (s.users u)) ops step h fun _ hs op hop =>
    dropped_step hs op (hops op hop)

theorem dropped_after_close (ops after : List Op) (hafter : ∀ op ∈ after, op.isCall = false) (u : Nat) :
    Dropped ((run State.init (ops ++ [.serverClosed] ++ after)).users u) := by
  rw [run_append, run_append]
  exact dropped_run (fun _ => Dropped.close _) after hafter u

theorem UInv.caughtUp {now : Nat} {U : User} (h : UInv now U) (hq : U.queue = []) : U.processed = U.issued := by
  have := h.lost
  rwa [hq, List.append_nil] at this

end AioslskVerif.Track
