import AioslskVerif.Proofs.Expect
/-!
What ends a request: a step that is not one of the request's own events (`OwnEvent`) leaves a pending request
as pending as it was (`Kept`).
-/
namespace AioslskVerif.Expect

/-- the events of request `k` (whose record is `w`) itself, in state `s` -/
def OwnEvent (s : State) (k : Nat) (w : Waiter) (op : Op) : Prop :=
  op = .timeout k ∨ op = .cancelTask k ∨ op = .cancelFut k ∨ (∃ c, op = .sendFails k c) ∨
  (∃ h hd, op = .finish h ∧ s.hs[h]? = some hd ∧ hd.done = false ∧ w.m.matches hd.μ = true)

def Kept (w x : Waiter) : Prop :=
  x.fut = .pending ∧ x.m = w.m ∧ (w.awaiting = true → x.awaiting = true) ∧ x.expired = w.expired ∧
  x.cancelReq = w.cancelReq

theorem Kept.trans {w x y : Waiter} (h1 : Kept w x) (h2 : Kept x y) : Kept w y := by
  obtain ⟨-, m1, await1, exp1, creq1⟩ := h1
  obtain ⟨pending2, m2, await2, exp2, creq2⟩ := h2
  exact ⟨pending2, m2.trans m1, fun h => await2 (await1 h), exp2.trans exp1, creq2.trans creq1⟩

theorem step_pending_kept {s : State} (hi : Inv s) (op : Op) {k : Nat} {w : Waiter} (hk : s.ws[k]? = some w)
    (hp : w.fut = .pending) (hno : ¬ OwnEvent s k w op) :
    ∃ w', (step s op).ws[k]? = some w' ∧ Kept w w' := by
  have krefl : Kept w w := ⟨hp, rfl, id, rfl, rfl⟩
  obtain ⟨w', hk', h⟩ := step_get op hk
  refine ⟨w', hk', ?_⟩
  rcases h with _ | ⟨h, hd, rfl, hh, hdn, hhit⟩ | ha | ⟨c, q, rfl, hq, rfl⟩
  · exact krefl
  · exact absurd (.inr (.inr (.inr (.inr ⟨h, hd, rfl, hh, hdn, (hit_iff.mp hhit).2.2⟩)))) hno
  · -- of the ops aimed at a request only `awaitF` is not one of its own events
    cases op with
    | awaitF j =>
      simp only [Op.onW, hp]
      split
      · exact krefl
      · exact ⟨rfl, rfl, fun _ => rfl, rfl, rfl⟩
    | timeout j => cases ha; exact absurd (.inl rfl) hno
    | cancelTask j => cases ha; exact absurd (.inr (.inl rfl)) hno
    | cancelFut j => cases ha; exact absurd (.inr (.inr (.inl rfl))) hno
    | sendFails j c => cases ha; exact absurd (.inr (.inr (.inr (.inl ⟨c, rfl⟩)))) hno
    | _ => cases ha
  · cases c with
    | remove j => exact ⟨hp, rfl, id, rfl, rfl⟩
    | wake j =>
      simp only [Cb.run, WInv.wakeW_eq (k := j) (hi.w _ _ hk), hp, ne_eq, not_true, and_false, if_false]
      exact krefl

/-- no event of request `k`'s own in the op list, run from state `s` -/
def NoOwnEvent (k : Nat) : State → List Op → Prop
  | _, [] => True
  | s, op :: rest => (∀ w, s.ws[k]? = some w → ¬ OwnEvent s k w op) ∧ NoOwnEvent k (step s op) rest

theorem kept_foldl (l : List Op) : ∀ (s : State) (k : Nat) (w : Waiter), Inv s → s.ws[k]? = some w →
    w.fut = .pending → NoOwnEvent k s l → ∃ w', (l.foldl step s).ws[k]? = some w' ∧ Kept w w' := by
  induction l with
  | nil => intro s k w _ hk hp _; exact ⟨w, hk, hp, rfl, fun h => h, rfl, rfl⟩
  | cons op rest ih =>
    intro s k w hi hk hp hno
    obtain ⟨w1, hk1, h1⟩ := step_pending_kept hi op hk hp (hno.1 w hk)
    obtain ⟨w2, hk2, h2⟩ := ih (step s op) k w1 (inv_step hi op) hk1 h1.1 hno.2
    exact ⟨w2, hk2, h1.trans h2⟩

theorem ends_by_own_event_foldl {s : State} (hi : Inv s) (l : List Op) {k : Nat} {w w' : Waiter}
    (hk : s.ws[k]? = some w) (hp : w.fut = .pending) (hk' : (l.foldl step s).ws[k]? = some w')
    (hnp : w'.fut ≠ .pending) :
    ∃ a op b w1, l = a ++ op :: b ∧ (a.foldl step s).ws[k]? = some w1 ∧ w1.fut = .pending ∧
      OwnEvent (a.foldl step s) k w1 op := by
  obtain ⟨a, op, b, he, hn, hn'⟩ :=
    foldl_first step (fun t => ¬ ∃ w1, t.ws[k]? = some w1 ∧ w1.fut = .pending) l s
      (fun h => h ⟨w, hk, hp⟩) (fun ⟨w1, h1, hp1⟩ => hnp (by rw [hk'] at h1; cases h1; exact hp1))
  obtain ⟨w1, hk1, hp1⟩ := Classical.not_not.mp hn
  refine ⟨a, op, b, w1, he, hk1, hp1, Classical.byContradiction fun hno => hn' ?_⟩
  obtain ⟨w2, hk2, h2⟩ := step_pending_kept (inv_foldl hi a) op hk1 hp1 hno
  exact ⟨w2, hk2, h2.1⟩

theorem cb_flags {s : State} (hi : Inv s) {k : Nat} {w : Waiter} (hk : s.ws[k]? = some w) :
    ∃ w', (step s .cb).ws[k]? = some w' ∧ w'.expired = w.expired ∧ w'.cancelReq = w.cancelReq := by
  obtain ⟨w', hk', h⟩ := step_get .cb hk
  refine ⟨w', hk', ?_⟩
  rcases h with _ | ⟨_, _, h⟩ | h | ⟨c, q, -, hq, rfl⟩
  · exact ⟨rfl, rfl⟩
  · cases h
  · cases h
  · cases c with
    | remove j => exact ⟨rfl, rfl⟩
    | wake j =>
      simp only [Cb.run, WInv.wakeW_eq (k := j) (hi.w _ _ hk)]
      split <;> exact ⟨rfl, rfl⟩

theorem cb_flags_foldl {s : State} (hi : Inv s) (n : Nat) {k : Nat} {w : Waiter} (hk : s.ws[k]? = some w) :
    ∃ w', ((List.replicate n Op.cb).foldl step s).ws[k]? = some w' ∧ w'.expired = w.expired ∧
      w'.cancelReq = w.cancelReq :=
  (List.foldlRecOn (List.replicate n Op.cb) step
    (motive := fun t => Inv t ∧ ∃ w', t.ws[k]? = some w' ∧ w'.expired = w.expired ∧ w'.cancelReq = w.cancelReq)
    ⟨hi, w, hk, rfl, rfl⟩
    fun _ ⟨hi, _, hk1, he1, hc1⟩ op hop => by
      cases List.eq_of_mem_replicate hop
      obtain ⟨w2, hk2, he2, hc2⟩ := cb_flags hi hk1
      exact ⟨inv_step hi _, w2, hk2, he2.trans he1, hc2.trans hc1⟩).2

end AioslskVerif.Expect
