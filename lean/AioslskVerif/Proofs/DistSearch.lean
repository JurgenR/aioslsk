import AioslskVerif.Proofs.DistSusp
import AioslskVerif.Model.DistSearch
/-! What C14 needs of the tree beyond the invariant, shown in the small-step layer and read off for the atomic model; then
the search path (`Model/DistSearch.lean`). -/
namespace AioslskVerif.Dist

theorem xstep_stays (x : XState) (op : XOp) (hs : SInv x.d) (c : ConnId) (hc : c ∈ x.d.children)
    (hl : c ∈ (xstep x op).d.live) : c ∈ (xstep x op).d.children := by
  rcases xstep_noted x op with ⟨n, r, rfl⟩ | ⟨x', h1, h2, _, hb⟩
  · have hne := hs.child_ne_nextConn hc
    refine initialized_cases (P := fun t => c ∈ t.live → c ∈ t.children) x.d n r hs (fun _ => hc)
      (fun _ => (List.mem_erase_of_ne hne).2 hc) (fun _ _ _ => ?_) hl
    rw [addChild_children]
    exact List.mem_append_left _ hc
  · exact hb.stays (h2 ▸ hs.liveNodup) c (h1 ▸ hc) hl

def Stays (s s' : DState) : Prop := ∀ c, c ∈ s.children → c ∈ s'.live → c ∈ s'.children

theorem step_stays (s : DState) (op : Op) (hs : SInv s) : Stays s (step s op) := by
  intro c hc hl
  have := xstep_stays { d := s } (.base op) hs c hc (by rw [xstep_base]; exact hl)
  rwa [xstep_base] at this

theorem run_snoc (ops : List Op) (op : Op) : run (ops ++ [op]) = step (run ops) op := by
  simp [run, List.foldl_append]

/-- `toldL c ≠ none`: a `DistributedBranchLevel` has been written to connection `c` -/
def ToldChild (s : DState) : Prop := ∀ c, c ∈ s.live → s.toldL c ≠ none → c ∈ s.children

theorem Sheds.toldChild {x y : XState} (hb : Sheds x y) (hnd : x.d.live.Nodup) (h : ToldChild x.d) :
    ToldChild y.d := by
  intro c hc ht
  exact hb.stays hnd c ((hb.told c ht).elim (h c (hb.live.subset hc)) id) hc

theorem dropConn_toldChild (s : DState) (x : ConnId) (hn : s.live.Nodup) (h : ToldChild s) : ToldChild (dropConn s x) := by
  intro c hc ht
  have hc' : c ∈ s.live.erase x := hc
  have hne : c ≠ x := (hn.mem_erase_iff.1 hc').1
  exact (List.mem_erase_of_ne hne).2 (h c (List.mem_of_mem_erase hc') ht)

theorem addChild_toldChild (s : DState) (x : ConnId) (h : ToldChild s) : ToldChild (addChild s x) := by
  intro c hc ht
  rw [addChild_children]
  by_cases hcx : c = x
  · subst hcx; simp
  · apply List.mem_append_left
    apply h c (addChild_live s x ▸ hc)
    unfold addChild at ht
    split at ht
    · simpa [upd, hcx] using ht
    · exact ht

theorem withConn_toldChild (s : DState) (n : Name) (h : ToldChild s) : ToldChild (withConn s n) := by
  intro c hc ht
  have hc' : c ∈ s.live ++ [s.nextConn] := hc
  have ht' : upd s.toldL s.nextConn none c ≠ none := ht
  show c ∈ s.children
  by_cases hcx : c = s.nextConn
  · subst hcx; simp at ht'
  · rw [upd_ne _ _ _ _ hcx] at ht'
    rcases List.mem_append.1 hc' with hl | hl
    · exact h c hl ht'
    · simp at hl; exact absurd hl hcx

theorem xstep_toldChild (x : XState) (op : XOp) (hs : SInv x.d) (h : ToldChild x.d) : ToldChild (xstep x op).d := by
  rcases xstep_noted x op with ⟨n, r, rfl⟩ | ⟨x', h1, h2, h3, hb⟩
  · have hw := withConn_toldChild x.d n h
    exact initialized_cases x.d n r hs hw (dropConn_toldChild _ _ (withConn_sinv x.d n hs).liveNodup hw)
      (fun _ _ => addChild_toldChild _ _ hw)
  · exact hb.toldChild (h2 ▸ hs.liveNodup) (fun c hc ht => h1 ▸ h c (h2 ▸ hc) (h3 ▸ ht))

theorem xrun_toldChild (ops : List XOp) : ToldChild (xrun ops).d :=
  xrun_ind (P := fun x => ToldChild x.d) (fun _ hc => nomatch hc) (fun x op hi => xstep_toldChild x op hi.binv.str) ops

theorem run_toldChild (ops : List Op) : ToldChild (run ops) := by
  have := xrun_toldChild (ops.map .base)
  rwa [xrun_base] at this

end AioslskVerif.Dist

namespace AioslskVerif.DistSearch
open AioslskVerif.Dist
open AioslskVerif.Generated.DistSearch

theorem isOwn_iff (s : DState) (u : Name) : isOwn s u = true ↔ s.session = some u := by
  simp [isOwn]

theorem passOn_foreign (s : DState) (r : Req) (hown : s.session ≠ some r.user) (hs : r.IsSearch) :
    passOn s r = some r.outUnknown := by
  have ho : isOwn s r.user = false := Bool.eq_false_iff.2 (fun h => hown ((isOwn_iff s r.user).1 h))
  unfold passOn Req.outUnknown
  unfold Req.IsSearch at hs
  split <;> simp_all

theorem passOn_own (s : DState) (r : Req) (hown : s.session = some r.user) : passOn s r = none := by
  have ho : isOwn s r.user = true := (isOwn_iff s r.user).2 hown
  unfold passOn
  split <;> simp_all

theorem forward_foreign (s : DState) (r : Req) (hown : s.session ≠ some r.user) (hs : r.IsSearch) :
    forward s r = s.children.map (fun c => Out.fwd c r.outUnknown r.user r.ticket r.query) := by
  unfold forward
  rw [passOn_foreign s r hown hs]

theorem forward_own (s : DState) (r : Req) (hown : s.session = some r.user) : forward s r = [] := by
  unfold forward
  rw [passOn_own s r hown]

theorem mem_forward (s : DState) (r : Req) (o : Out) (h : o ∈ forward s r) :
    ∃ c unk, c ∈ s.children ∧ o = Out.fwd c unk r.user r.ticket r.query := by
  unfold forward at h
  split at h
  next unk _ =>
    obtain ⟨c, hc, rfl⟩ := List.mem_map.1 h
    exact ⟨c, unk, hc, rfl⟩
  · simp at h

theorem queried_iff (env : Env) (s : DState) (r : Req) :
    queried env s r = true ↔
      r.IsSearch ∧ s.session.isSome ∧ s.session ≠ some r.user ∧ env.blocked r.user = false := by
  have hown : isOwn s r.user = false ↔ s.session ≠ some r.user := by simp [isOwn]
  simp only [queried, Bool.and_eq_true, Bool.not_eq_true', hown, and_assoc]
  -- beside the other three conjuncts `reaches` says what `IsSearch` says: for a server carrier it repeats two of them,
  -- a distributed carrier always reaches, a legacy one when its code is the search code
  refine and_congr_left fun h => ?_
  unfold reaches Req.IsSearch
  cases r.carrier with
  | server => simp [h.1, hown.mpr h.2.1]
  | distributed => simp
  | legacy => simp

theorem queried_true (env : Env) (s : DState) (r : Req) (me : Name) (hs : s.session = some me)
    (hu : r.user ≠ me) (hsearch : r.IsSearch) (hb : env.blocked r.user = false) : queried env s r = true :=
  (queried_iff env s r).2
    ⟨hsearch, by rw [hs]; rfl, by rw [hs]; exact fun h => hu (Option.some.inj h).symm, hb⟩

theorem hasMatch_iff (env : Env) (u : Name) (q : Query) :
    env.hasMatch u q ↔ ¬ ((env.answer u q).1.length + (env.answer u q).2.length = 0) := by
  unfold Env.hasMatch
  rw [Nat.add_eq_zero_iff, List.length_eq_zero_iff, List.length_eq_zero_iff, Classical.not_and_iff_not_or_not]

theorem reply_not_queried (env : Env) (s : DState) (r : Req) (hq : queried env s r = false) :
    reply env s r = [] := by
  unfold reply
  split
  · rw [if_neg (by simp [hq])]
  · rfl

theorem reply_queried (env : Env) (s : DState) (r : Req) (me : Name) (hs : s.session = some me)
    (hq : queried env s r = true) :
    reply env s r =
      if env.hasMatch r.user r.query then
        [Out.reply r.user r.ticket me (env.answer r.user r.query).1 (env.answer r.user r.query).2]
      else [] := by
  unfold reply
  rw [hs]
  dsimp only
  rw [if_pos hq]
  by_cases hm : env.hasMatch r.user r.query
  · rw [if_pos hm, if_neg ((hasMatch_iff env _ _).1 hm)]
  · rw [if_neg hm, if_pos (Classical.not_not.1 (fun h => hm ((hasMatch_iff env _ _).2 h)))]

theorem reply_cases (env : Env) (s : DState) (r : Req) :
    reply env s r = [] ∨ ∃ me v l, reply env s r = [Out.reply r.user r.ticket me v l] := by
  cases hq : queried env s r with
  | false => exact Or.inl (reply_not_queried env s r hq)
  | true =>
    obtain ⟨me, hs⟩ := Option.isSome_iff_exists.1 ((queried_iff env s r).1 hq).2.1
    rw [reply_queried env s r me hs hq]
    split
    · exact Or.inr ⟨_, _, _, rfl⟩
    · exact Or.inl rfl

theorem reply_toConn (env : Env) (s : DState) (r : Req) (o : Out) (h : o ∈ reply env s r) (c : ConnId) :
    o.toConn c = false := by
  rcases reply_cases env s r with e | ⟨me, v, l, e⟩
  · rw [e] at h; cases h
  · rw [e, List.mem_singleton] at h; rw [h]; rfl

theorem reply_length_le (env : Env) (s : DState) (r : Req) : (reply env s r).length ≤ 1 := by
  rcases reply_cases env s r with e | ⟨me, v, l, e⟩ <;> rw [e] <;> simp

theorem countP_handle (env : Env) (s : DState) (r : Req) (hown : s.session ≠ some r.user) (hs : r.IsSearch)
    (c : ConnId) : (handle env s r).countP (Out.toConn c) = s.children.count c := by
  have hr : (reply env s r).countP (Out.toConn c) = 0 :=
    List.countP_eq_zero.2 (fun o ho => by simp [reply_toConn env s r o ho c])
  unfold handle
  rw [List.countP_append, hr, forward_foreign s r hown hs, List.countP_map, List.count_eq_countP, Nat.add_zero]
  rfl

theorem written_nil (outs : List Out) : written [] outs = outs := by
  unfold written
  rw [List.filter_eq_self]
  intro o _
  cases o <;> simp [refused]

theorem countP_written (closing : List ConnId) (outs : List Out) (c : ConnId) :
    (written closing outs).countP (Out.toConn c) = if c ∈ closing then 0 else outs.countP (Out.toConn c) := by
  unfold written
  rw [List.countP_filter]
  split
  next hc =>
    refine List.countP_eq_zero.2 (fun o _ => ?_)
    cases o with
    | reply to t me v l => simp [Out.toConn]
    | fwd d unk u t q => simp [Out.toConn, refused]; intro e; subst e; exact hc
  next hc =>
    refine List.countP_congr (fun o _ => ?_)
    cases o with
    | reply to t me v l => simp [Out.toConn]
    | fwd d unk u t q => simp [Out.toConn, refused]; intro e; subst e; exact hc

theorem reply_sub_written (env : Env) (s : DState) (r : Req) (closing : List ConnId) (o : Out)
    (ho : o ∈ reply env s r) : o ∈ written closing (handle env s r) := by
  refine List.mem_filter.2 ⟨List.mem_append_right _ ho, ?_⟩
  rcases reply_cases env s r with e | ⟨me, v, l, e⟩
  · rw [e] at ho; cases ho
  · rw [e, List.mem_singleton] at ho; rw [ho]; rfl

theorem written_sub (closing : List ConnId) (outs : List Out) (o : Out) (ho : o ∈ written closing outs) :
    o ∈ outs := (List.mem_filter.1 ho).1

theorem stepS_closeBegin_d (env : Env) (st : SState) (c : ConnId) : (stepS env st (.closeBegin c)).d = st.d := by
  simp only [stepS]; split <;> rfl

theorem stepS_closeBegin_log (env : Env) (st : SState) (c : ConnId) : (stepS env st (.closeBegin c)).log = st.log := by
  simp only [stepS]; split <;> rfl

theorem stepS_closeBegin_sent (env : Env) (st : SState) (c : ConnId) :
    (stepS env st (.closeBegin c)).sent = st.sent := by
  simp only [stepS]; split <;> rfl

theorem stepS_closeBegin_adding (env : Env) (st : SState) (c : ConnId) :
    (stepS env st (.closeBegin c)).adding = st.adding := by
  simp only [stepS]; split <;> rfl

theorem runS_snoc (env : Env) (h : List SOp) (op : SOp) :
    runS env (h ++ [op]) = stepS env (runS env h) op := by
  simp [runS, List.foldl_append]

theorem treeOps_append (h1 h2 : List SOp) : treeOps (h1 ++ h2) = treeOps h1 ++ treeOps h2 := by
  induction h1 with
  | nil => rfl
  | cons op h ih => cases op <;> simp [treeOps, ih]

theorem runS_state (env : Env) (h : List SOp) : (runS env h).d = run (treeOps h) := by
  unfold runS run
  suffices ∀ (st : SState), (h.foldl (stepS env) st).d = (treeOps h).foldl step st.d from this SState.init
  induction h with
  | nil => intro st; rfl
  | cons op h ih =>
    intro st
    cases op with
    | closeBegin c => simp only [List.foldl_cons, treeOps, ih, stepS_closeBegin_d]
    | _ => simp only [List.foldl_cons, treeOps, ih, stepS]

theorem runS_inv (env : Env) (h : List SOp) : Inv (runS env h).d := by
  rw [runS_state]; exact run_inv _

/-- `π` is a log to which only the handling of a carrier `r` appends, namely `(r, f st r)` -/
theorem log_entry (env : Env) (π : SState → List (Req × List Out)) (f : SState → Req → List Out)
    (h0 : π SState.init = [])
    (hπ : ∀ st op, π (stepS env st op) = match op with | .search r => π st ++ [(r, f st r)] | _ => π st)
    (h : List SOp) (e : Req × List Out) (he : e ∈ π (runS env h)) :
    ∃ h', h' <+: h ∧ e.2 = f (runS env h') e.1 := by
  -- induction with the already processed prefix as a parameter
  suffices ∀ h pre, e ∈ π (h.foldl (stepS env) (runS env pre)) →
      e ∈ π (runS env pre) ∨ ∃ h', h' <+: h ∧ e.2 = f (runS env (pre ++ h')) e.1 by
    rcases this h [] he with h1 | h1
    · rw [show runS env [] = SState.init from rfl, h0] at h1; cases h1
    · exact h1
  intro h
  induction h with
  | nil => exact fun _ he => Or.inl he
  | cons op h ih =>
    intro pre he
    rw [List.foldl_cons, ← runS_snoc] at he
    rcases ih (pre ++ [op]) he with h1 | ⟨h', hp, heq⟩
    · rw [runS_snoc, hπ] at h1
      cases op with
      | search r =>
        rcases List.mem_append.1 h1 with h1 | h1
        · exact Or.inl h1
        · rw [List.mem_singleton.1 h1]
          exact Or.inr ⟨[], List.nil_prefix, by rw [List.append_nil]⟩
      | _ => exact Or.inl h1
    · exact Or.inr ⟨op :: h', (List.cons_prefix_cons).2 ⟨rfl, hp⟩, by rw [heq, List.append_assoc]; rfl⟩

theorem log_history (env : Env) (h : List SOp) (e : Req × List Out) (he : e ∈ (runS env h).log) :
    ∃ h', h' <+: h ∧ e.2 = handle env (runS env h').d e.1 :=
  log_entry env (·.log) (fun st r => handle env st.d r) rfl
    (fun st op => by cases op with | closeBegin c => exact stepS_closeBegin_log env st c | _ => rfl) h e he

theorem sent_history (env : Env) (h : List SOp) (e : Req × List Out) (he : e ∈ (runS env h).sent) :
    ∃ h', h' <+: h ∧ e.2 = written (runS env h').closing (handle env (runS env h').d e.1) :=
  log_entry env (·.sent) (fun st r => written st.closing (handle env st.d r)) rfl
    (fun st op => by cases op with | closeBegin c => exact stepS_closeBegin_sent env st c | _ => rfl) h e he

def AddingOK (st : SState) : Prop := ∀ c, c ∈ st.adding → c ∈ st.d.live ∧ c ∈ st.d.children

theorem stillAdding_live (l : List ConnId) (d' : DState) : ∀ c, c ∈ stillAdding l d' → c ∈ d'.live := by
  intro c hc
  unfold stillAdding at hc
  simpa using (List.mem_filter.1 hc).2

theorem stillAdding_ok (st : SState) (d' : DState) (hs : Stays st.d d') (h : AddingOK st) :
    ∀ c, c ∈ stillAdding st.adding d' → c ∈ d'.live ∧ c ∈ d'.children := by
  intro c hc
  have hl := stillAdding_live _ _ c hc
  exact ⟨hl, hs c (h c (List.mem_filter.1 hc).1).2 hl⟩

theorem stepS_addingOK (env : Env) (st : SState) (op : SOp) (hi : Inv st.d) (h : AddingOK st) :
    AddingOK (stepS env st op) := by
  cases op with
  | tree op => exact stillAdding_ok st _ (step_stays st.d op hi.str) h
  | addBegin n =>
    intro c hc
    simp only [stepS] at hc ⊢
    rcases List.mem_append.1 hc with hc | hc
    · exact stillAdding_ok st _ (step_stays st.d _ hi.str) h c hc
    · split at hc
      next hcond =>
        rw [List.mem_singleton.1 hc]
        exact ⟨(step_inv st.d _ hi).str.childLive _ hcond.1, hcond.1⟩
      · cases hc
  | addEnd x => exact fun c hc => h c (List.mem_of_mem_erase hc)
  | closeBegin x =>
    intro c hc
    rw [stepS_closeBegin_adding] at hc
    rw [stepS_closeBegin_d]
    exact h c hc
  | search r | credentials n => exact h

theorem runS_addingOK (env : Env) (h : List SOp) : AddingOK (runS env h) := by
  refine (List.foldlRecOn (motive := fun st => Inv st.d ∧ AddingOK st) h (stepS env) ⟨init_inv, ?_⟩
    (fun st hst op _ => ⟨?_, stepS_addingOK env st op hst.1 hst.2⟩)).2
  · intro c hc; cases hc
  · cases op with
    | tree op => exact step_inv st.d op hst.1
    | addBegin n => exact step_inv st.d (.initialized n false) hst.1
    | closeBegin c => rw [stepS_closeBegin_d]; exact hst.1
    | search _ | addEnd _ | credentials _ => exact hst.1

def ClosingOK (st : SState) : Prop := (∀ c, c ∈ st.closing → c ∈ st.d.live) ∧ st.closing.Nodup

theorem stepS_closingOK (env : Env) (st : SState) (op : SOp) (h : ClosingOK st) : ClosingOK (stepS env st op) := by
  cases op with
  | tree _ | addBegin _ => exact ⟨stillAdding_live _ _, h.2.filter _⟩
  | closeBegin x =>
    simp only [stepS]
    split
    next hx =>
      refine ⟨fun c hc => ?_, ?_⟩
      · rcases List.mem_append.1 hc with hc | hc
        · exact h.1 c hc
        · rw [List.mem_singleton.1 hc]; exact hx.1
      · refine List.nodup_append.2 ⟨h.2, by simp, fun a ha b hb => ?_⟩
        rw [List.mem_singleton.1 hb]
        intro e; subst e; exact hx.2 ha
    · exact h
  | search _ | addEnd _ | credentials _ => exact h

theorem runS_closingOK (env : Env) (h : List SOp) : ClosingOK (runS env h) :=
  List.foldlRecOn h (stepS env) ⟨fun _ hc => absurd hc List.not_mem_nil, List.nodup_nil⟩
    (fun st hst op _ => stepS_closingOK env st op hst)

theorem closePeer_not_live (s : DState) (c : ConnId) (hs : SInv s) : c ∉ (closePeer s c).live := by
  have := closed_not_alive { d := s } c hs
  rw [xstep_base] at this
  exact fun hm => this ⟨hm, List.not_mem_nil⟩

theorem closed_not_closing (env : Env) (h : List SOp) (c : ConnId) :
    c ∉ (runS env (h ++ [.tree (.closed c)])).closing := by
  intro hc
  have hl := (runS_closingOK env (h ++ [.tree (.closed c)])).1 c hc
  have e : treeOps (h ++ [SOp.tree (.closed c)]) = treeOps h ++ [.closed c] := by rw [treeOps_append]; rfl
  rw [runS_state, e, run_snoc] at hl
  exact closePeer_not_live _ c (run_inv (treeOps h)).str hl

def isCredentials : SOp → Bool
  | .credentials _ => true
  | _ => false

def forget (st : SState) : SState := { st with configured := none }

theorem forget_stepS (env : Env) (st : SState) (op : SOp) (hop : isCredentials op = false) :
    forget (stepS env st op) = stepS env (forget st) op := by
  cases op with
  | closeBegin c =>
    simp only [stepS, forget]
    by_cases hx : c ∈ st.d.live ∧ c ∉ st.closing <;> simp [hx]
  | credentials n => cases hop
  | _ => rfl

theorem forget_foldl (env : Env) (h : List SOp) (st : SState) :
    forget (h.foldl (stepS env) st) =
      (h.filter (fun op => !isCredentials op)).foldl (stepS env) (forget st) := by
  induction h generalizing st with
  | nil => rfl
  | cons op h ih =>
    rw [List.foldl_cons, ih]
    cases hop : isCredentials op with
    | false =>
      rw [List.filter_cons_of_pos (by simp [hop]), List.foldl_cons, forget_stepS env st op hop]
    | true =>
      rw [List.filter_cons_of_neg (by simp [hop])]
      cases op with
      | credentials n => rfl
      | _ => cases hop

end AioslskVerif.DistSearch
