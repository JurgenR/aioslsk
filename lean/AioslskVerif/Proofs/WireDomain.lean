import AioslskVerif.Proofs.WireTop
/-! The plain-words domain implies the technical `inDomain` for well-formed schemas (C01). -/
namespace AioslskVerif.Wire

theorem noneEmitted_encTop (all : List Val) : ∀ (fs : List Field) (vs : List Val),
    noneEmitted all fs vs = true → encTop all fs vs = some []
  | [], [], _ => rfl
  | f :: fs, v :: vs, h => by
    simp only [noneEmitted, emitted, Bool.and_eq_true, Bool.not_not] at h
    rw [encTop, if_pos h.1]; exact noneEmitted_encTop all fs vs h.2
  | [], _ :: _, h | _ :: _, [], h => by cases h

theorem expParsed_getD (all : List Val) : ∀ (fs : List Field) (vs : List Val) (i : Nat) (g : Field) (v : Val),
    fs[i]? = some g → vs[i]? = some v →
    (expParsed all fs vs).getD i none = if emitted all g v then some v else none
  | [], _, i, g, v, h, _ => by cases h
  | _ :: _, [], i, g, v, _, h => by cases h
  | f :: fs, w :: vs, 0, g, v, h1, h2 => by cases h1; cases h2; rfl
  | f :: fs, w :: vs, i + 1, g, v, h1, h2 => expParsed_getD all fs vs i g v h1 h2

/-- what a later field's guard needs of the fields already passed: its target, unconditional and not
optional, was written -/
def PrefOK (fsP : List Field) (vsP : List Val) : Prop :=
  ∀ (i : Nat) (g : Field), fsP[i]? = some g → g.cond = Cond.always → g.optional = false →
    ∃ v : Val, vsP[i]? = some v ∧ v.isAbsent = false

theorem PrefOK.nil : PrefOK [] [] := fun i g h => by simp at h

theorem PrefOK.snoc {fsP : List Field} {vsP : List Val} {f : Field} {v : Val} (hp : PrefOK fsP vsP)
    (hlen : fsP.length = vsP.length) (hv : f.cond = .always → f.optional = false → v.isAbsent = false) :
    PrefOK (fsP ++ [f]) (vsP ++ [v]) := by
  intro i g hgi hca hno
  by_cases hi : i < fsP.length
  · rw [List.getElem?_append_left hi] at hgi
    rw [List.getElem?_append_left (hlen ▸ hi)]
    exact hp i g hgi hca hno
  · have : i = fsP.length := by
      have := (List.getElem?_eq_some_iff.mp hgi).1
      rw [List.length_append] at this; exact Nat.le_antisymm (Nat.le_of_lt_succ this) (Nat.le_of_not_lt hi)
    subst this
    rw [List.getElem?_concat_length] at hgi; cases hgi
    exact ⟨v, by rw [hlen, List.getElem?_concat_length], hv hca hno⟩

theorem guardOk_target {f : Field} {fs : List Field} {pos i : Nat} (hg : f.guardOk fs pos = true)
    (hc : f.cond = .ifTrue i ∨ f.cond = .ifFalse i) :
    i < pos ∧ (∃ g, fs[i]? = some g ∧ g.cond = .always ∧ g.optional = false) ∧ f.dflt = .none := by
  unfold Field.guardOk at hg
  -- both kinds of guard carry the same condition
  rcases hc with hc | hc <;> rw [hc] at hg
  all_goals
    simp only [Bool.and_eq_true, decide_eq_true_eq, beq_iff_eq] at hg
    refine ⟨hg.1.1, ?_, hg.2⟩
    cases hgi : fs[i]? with
    | none => rw [hgi] at hg; cases hg.1.2
    | some g =>
      rw [hgi] at hg
      simp only [Bool.and_eq_true, beq_iff_eq, Bool.not_eq_true'] at hg
      exact ⟨g, rfl, hg.1.2.1⟩

theorem guardDec_ok (all : List Val) (fsP fsS : List Field) (vsP vsS : List Val) (f : Field)
    (hall : all = vsP ++ vsS) (hlen : fsP.length = vsP.length) (hp : PrefOK fsP vsP)
    (hg : f.guardOk (fsP ++ fsS) fsP.length = true) :
    guardDec f.cond (expParsed all fsP vsP) = .ok (guardEnc f.cond all) := by
  -- the guard's target was written, and parsed as written
  have key : ∀ i, f.cond = .ifTrue i ∨ f.cond = .ifFalse i →
      (expParsed all fsP vsP).getD i none = some (all.getD i .absent) := fun i hc => by
    obtain ⟨hi, ⟨g, hgi, hca, hno⟩, _⟩ := guardOk_target hg hc
    rw [List.getElem?_append_left hi] at hgi
    obtain ⟨v, hv, hva⟩ := hp i g hgi hca hno
    rw [expParsed_getD all fsP vsP i g v hgi hv, hall, List.getD_eq_getElem?_getD,
      List.getElem?_append_left (hlen ▸ hi), hv, emitted, hva, hca]
    rfl
  cases hc : f.cond with
  | always => rfl
  | ifTrue i => simp only [guardDec, guardEnc, key i (.inl hc)]; rfl
  | ifFalse i => simp only [guardDec, guardEnc, key i (.inr hc)]; rfl

theorem guarded_dflt_none (f : Field) (fs : List Field) (pos : Nat) (all : List Val)
    (hg : f.guardOk fs pos = true) (hf : guardEnc f.cond all = false) : f.dflt = .none := by
  cases hc : f.cond with
  | always => rw [hc] at hf; cases hf
  | ifTrue i => exact (guardOk_target hg (.inl hc)).2.2
  | ifFalse i => exact (guardOk_target hg (.inr hc)).2.2

theorem plainDom_domFrom (all : List Val) : ∀ (fsS : List Field) (vsS : List Val) (fsP : List Field)
    (vsP : List Val), all = vsP ++ vsS → fsP.length = vsP.length → PrefOK fsP vsP →
    fieldsWf (fsP ++ fsS) fsP.length fsS = true → plainDom all fsS vsS = true →
    domFrom all fsP vsP fsS vsS = true
  | [], [], _, _, _, _, _, _, _ => rfl
  | f :: fs, v :: vs, fsP, vsP, hall, hlen, hp, hwf, hd => by
    simp only [fieldsWf, Bool.and_eq_true] at hwf
    obtain ⟨⟨⟨⟨⟨hgok, hopt⟩, htk⟩, _⟩, _⟩, hwfr⟩ := hwf
    simp only [plainDom, Bool.and_eq_true] at hd
    obtain ⟨hrow, hdr⟩ := hd
    have hp' : PrefOK (fsP ++ [f]) (vsP ++ [v]) := hp.snoc hlen fun hca hno => by
      cases hva : v.isAbsent with
      | false => rfl
      | true => simp [hca, guardEnc, hva, hno] at hrow
    have ih := plainDom_domFrom all fs vs (fsP ++ [f]) (vsP ++ [v]) (by simp [hall]) (by simp [hlen]) hp'
      (by simpa using hwfr) hdr
    simp only [domFrom, Bool.and_eq_true]
    refine ⟨⟨by rw [guardDec_ok all fsP (f :: fs) vsP (v :: vs) f hall hlen hp hgok]; simp [isOkWith], ?_⟩, ih⟩
    cases hgt : guardEnc f.cond all with
    | false =>
      simp only [hgt, Bool.not_false, if_true, Bool.and_eq_true, beq_iff_eq] at hrow ⊢
      exact ⟨hrow, guarded_dflt_none f _ _ all hgok hgt⟩
    | true =>
      cases hva : v.isAbsent with
      | true =>
        simp only [hgt, hva, Bool.not_true, Bool.false_eq_true, if_false, if_true, Bool.and_eq_true] at hrow ⊢
        exact ⟨hrow.1, by rw [noneEmitted_encTop all fs vs hrow.2]; rfl⟩
      | false =>
        simp only [Bool.not_true, Bool.false_eq_true, if_false, Bool.and_eq_true, Bool.or_eq_true,
          Bool.not_eq_true', bne_iff_ne, List.isEmpty_iff] at htk hopt ⊢
        constructor
        · -- a ticket field is the last of its message: nothing follows it
          rcases htk with h | ⟨h1, rfl⟩
          · exact .inl h
          · cases vs with
            | nil => exact .inr ⟨h1, rfl⟩
            | cons _ _ => cases hdr
        · exact hopt.imp id (·.2)
  | [], _ :: _, _, _, _, _, _, _, hd | _ :: _, [], _, _, _, _, _, _, hd => by cases hd

end AioslskVerif.Wire
