import AioslskVerif.Model.PeerConnect
/-!
The state space of one request is finite; `good` is the inductive invariant, `tableOK` (decided by kernel evaluation
over all values of the fields of `S` that the invariant leaves free x `allOp`) says every step from a good state yields
a good state, and that every good state satisfies the post-conditions the property theorems of C11 state.
-/
namespace AioslskVerif.PeerConnect

def allBool : List Bool := [false, true]
def allMode : List Mode := [.fallback, .race]
def allDPh : List DPh :=
  [.addr, .nConnecting, .opening, .nConnectedOk, .nConnectedBad, .nInit, .fClosing, .fClosed, .cClosing, .cClosed,
   .ok, .failed, .cancelled]
def allIPh : List IPh := [.notStarted, .waiting, .ok, .failed, .cancelled, .wClosing, .wClosed]
def allAPh : List APh := [.none, .nConnected, .nInit, .nClosing, .nClosed]
def allDConn : List DConn := [.none, .connecting, .open]
def allRes : List Res := [.pending, .returnedD, .returnedI, .raised, .cancelled]
def allNote : List Note :=
  [.dConnecting, .dConnected, .dInit, .dClosing, .dClosed, .aConnected, .aInit, .aClosing, .aClosed, .wClosing, .wClosed]
def allOp : List Op :=
  [.addrReply .valid, .addrReply .noAddr, .addrReply .noPort, .connectOk true, .connectOk false, .connectRefused,
   .connectTimeout, .pierce false, .pierce true, .cannotConnect, .indirectTimeout, .cancelRequest, .probe] ++
  allNote.map .note

theorem mem_allBool (b : Bool) : b ∈ allBool := by cases b <;> decide
theorem mem_allMode (x : Mode) : x ∈ allMode := by cases x <;> decide
theorem mem_allDPh (x : DPh) : x ∈ allDPh := by cases x <;> decide
theorem mem_allIPh (x : IPh) : x ∈ allIPh := by cases x <;> decide
theorem mem_allAPh (x : APh) : x ∈ allAPh := by cases x <;> decide
theorem mem_allDConn (x : DConn) : x ∈ allDConn := by cases x <;> decide
theorem mem_allRes (x : Res) : x ∈ allRes := by cases x <;> decide
theorem mem_allNote (x : Note) : x ∈ allNote := by cases x <;> decide

theorem mem_allOp (op : Op) : op ∈ allOp := by
  cases op with
  | addrReply r => cases r <;> decide
  | connectOk b => cases b <;> decide
  | pierce b => cases b <;> decide
  | note n => cases n <;> decide
  | _ => decide

/-- a state whose waiter tables and pierced-connection flag are what the phases of the two attempts say -/
def mk (mode : Mode) (srvFail cr : Bool) (d : DPh) (i : IPh) (a : APh) (dc : DConn) (ps : Bool) (res : Res) : S :=
  { mode := mode, srvFail := srvFail, cr := cr, d := d, i := i, a := a, dc := dc,
    ic := (i matches .ok | .wClosing), ps := ps, tw := (i matches .waiting), rw := (i matches .waiting),
    aw := (d matches .addr), res := res }

def dCancelling (d : DPh) : Bool := d matches .cClosing | .cClosed

/-- what the connection object of the direct attempt can be in each phase -/
def dcOK (d : DPh) (dc : DConn) : Bool :=
  match d with
  | .addr | .fClosed | .cClosed | .failed | .cancelled => (dc matches .none)
  | .nConnecting | .opening | .fClosing => (dc matches .connecting)
  | .nConnectedOk | .nConnectedBad | .nInit | .ok => (dc matches .open)
  | .cClosing => (dc matches .connecting | .open)

/-- whether PeerInit can have reached the peer in each phase -/
def psOK (d : DPh) (ps : Bool) : Bool :=
  match d with
  | .nInit | .ok => ps
  | .cClosing | .cClosed | .cancelled => true
  | _ => !ps

/-- second half of the invariant: the request's result, the cancellation flag and the phases of the two attempts fit -/
def ctrlOK (mode : Mode) (cr : Bool) (d : DPh) (i : IPh) (res : Res) : Bool :=
  match mode with
  | .fallback =>
    !(i matches .wClosing | .wClosed) && ((i matches .notStarted) == !(d matches .failed)) &&
    (match res with
     | .pending => if (d matches .failed) then (i matches .waiting) && !cr else dRunning d && (cr == dCancelling d)
     | .returnedD => (d matches .ok) && !cr
     | .returnedI => (i matches .ok) && !cr
     | .raised => (i matches .failed) && !cr
     | .cancelled => cr && ((d matches .cancelled) || (i matches .cancelled)))
  | .race =>
    !(i matches .notStarted) &&
    (match res with
     | .pending =>
       if cr then
         -- cancelled, gathering: the direct attempt is closing down; or the winner is being closed
         (dCancelling d && (i matches .cancelled | .failed | .ok)) ||
         ((d matches .cancelled) && (i matches .wClosing | .wClosed))
       else
         -- no winner yet; or the indirect attempt won and the direct one is closing down
         ((i matches .waiting | .failed) && ((dRunning d && !dCancelling d) || (d matches .failed)) &&
           !((d matches .failed) && (i matches .failed))) ||
         ((i matches .ok) && dCancelling d)
     | .returnedD => (d matches .ok) && (i matches .cancelled | .failed) && !cr
     | .returnedI => (i matches .ok) && (d matches .failed | .cancelled) && !cr
     | .raised => (d matches .failed) && (i matches .failed) && !cr
     | .cancelled => cr && (d matches .cancelled | .failed) && (i matches .cancelled | .failed) &&
         ((d matches .cancelled) || (i matches .cancelled)))

/-- first half of the invariant: every table entry and connection object is what the phases say -/
def shapeOK (s : S) : Bool :=
  (s.tw == (s.i matches .waiting)) && (s.rw == (s.i matches .waiting)) && (s.aw == (s.d matches .addr)) &&
  (s.ic == (s.i matches .ok | .wClosing)) && dcOK s.d s.dc && psOK s.d s.ps

def good (s : S) : Bool := shapeOK s && ctrlOK s.mode s.cr s.d s.i s.res

theorem eq_mk_of_shapeOK (s : S) (h : shapeOK s = true) :
    s = mk s.mode s.srvFail s.cr s.d s.i s.a s.dc s.ps s.res ∧ dcOK s.d s.dc = true ∧ psOK s.d s.ps = true := by
  cases s
  simp only [shapeOK, Bool.and_eq_true, beq_iff_eq] at h
  obtain ⟨⟨⟨⟨⟨h1, h2⟩, h3⟩, h4⟩, h5⟩, h6⟩ := h
  subst h1 h2 h3 h4
  exact ⟨rfl, h5, h6⟩

/-- the four kinds of step that touch the wire-level state (`wireStep`) -/
inductive WEv
  | writes              -- PeerInit is written (and the outgoing connection finalised)
  | lands (obf : Bool)  -- a piercing connection lands on a listening port
  | accepts             -- its pierce message is matched to the pending waiter (and the connection finalised)
  | hands               -- the waiter is completed with it

def wev (s : S) : Op → Option WEv
  | .note .dConnected => if s.d = .nConnectedOk then some .writes else none
  | .pierce o => if s.a = .none then some (.lands o) else none
  | .note .aConnected => if s.a = .nConnected ∧ s.tw = true then some .accepts else none
  | .note .aInit => if s.a = .nInit ∧ s.tw = true then some .hands else none
  | _ => none

/-- the accepted connection does not enter `nConnected` or `nInit` -/
def aKept (s s' : S) : Bool :=
  (!(s'.a matches .nConnected) || (s.a matches .nConnected)) && (!(s'.a matches .nInit) || (s.a matches .nInit))

/-- how one step `s -op-> s'` can change the facts the wire-level state follows: `ps` becomes true in exactly the step
that writes PeerInit; the accepted connection enters `nConnected` only by landing, `nInit` only by being matched;
the request is handed a pierced connection only by the completion of its waiter -/
def frameOK (s : S) (op : Op) (s' : S) : Bool :=
  match wev s op with
  | some .writes => !s.ps && s'.ps && aKept s s' && (!s'.ic || s.ic)
  | some (.lands _) => (s'.ps == s.ps) && (s'.a == .nConnected) && (!s'.ic || s.ic)
  | some .accepts => (s'.ps == s.ps) && (s.a == .nConnected) && (s'.a == .nInit) && (!s'.ic || s.ic)
  | some .hands => (s'.ps == s.ps) && (s.a == .nInit) && aKept s s'
  | none => (s'.ps == s.ps) && aKept s s' && (!s'.ic || s.ic)

def stepOK (s : S) (op : Op) : Bool :=
  match step s op with
  | none => true
  | some s' => good s' && frameOK s op s' && ((s.res matches .pending) || s'.res == s.res)

/-! what the property theorems say of a state, as decidable propositions -/

/-- no listener invocation is outstanding: nothing the library does now depends on the application -/
def settled (s : S) : Bool :=
  (match s.d with
   | .addr | .opening | .ok | .failed | .cancelled => true
   | _ => false) && s.a == .none && s.i != .wClosing && s.i != .wClosed

/-- every listener returns: each notification that is outstanding, and each one that follows from that, is
acknowledged (the accepted connection first, then the direct attempt, then the winner being closed: one round
suffices, `DrainsTo` below) -/
def drainOps : List Op :=
  [.note .aConnected, .note .aInit, .note .aClosing, .note .aClosed, .note .dConnecting, .note .dConnected,
   .note .dInit, .note .dClosing, .note .dClosed, .note .wClosing, .note .wClosed]

/-- `drainOps.foldl stepT s`, as a list of functions applied one after the other: `table_ok` can then put the
branch of `note` in each -/
def drain (s : S) : S := (drainOps.map fun op s => stepT s op).foldl (fun s f => f s) s

theorem drain_eq (s : S) : drain s = drainOps.foldl stepT s := List.foldl_map

abbrev ReturnsIff (s : S) : Prop :=
  (s.res = .returnedD ↔ s.d = .ok) ∧ (s.res = .returnedI ↔ (s.i = .ok ∧ s.d ≠ .cClosing ∧ s.d ≠ .cClosed)) ∧
    (s.d = .ok → s.dc = .open ∧ s.ps = true) ∧ (s.i = .ok → s.ic = true)

abbrev RaisesOtherwise (s : S) : Prop :=
  (s.res = .raised ↔ (s.d = .failed ∧ s.i = .failed)) ∧
    (s.mode = .fallback → s.i ≠ .notStarted → s.d = .failed)

abbrev NoLeftovers (s : S) : Prop :=
  s.res ≠ .pending →
    s.tw = false ∧ s.rw = false ∧ s.aw = false ∧
    (s.dc ≠ .none → s.res = .returnedD ∧ s.dc = .open) ∧ (s.ic = true → s.res = .returnedI) ∧
    dRunning s.d = false ∧ s.i ≠ .waiting ∧ s.i ≠ .wClosing ∧ s.i ≠ .wClosed

abbrev DrainsTo (s t : S) : Prop :=
  settled t = true ∧ (s.res ≠ .pending → t.res = s.res) ∧ (s.cr = true → t.res = .cancelled) ∧
    (t.res = .pending → t.d = .addr ∨ t.d = .opening ∨ t.i = .waiting)

def facts (s : S) : Bool :=
  decide (ReturnsIff s) && decide (RaisesOtherwise s) && decide (NoLeftovers s) && decide (DrainsTo s (drain s))

def entryOK (s : S) : Bool := facts s && allOp.all (stepOK s)

/-- every state that satisfies the invariant (the candidates are cut down by its parts) has the facts and keeps the
invariant -/
def tableOK : Bool :=
  allMode.all fun mode => allBool.all fun cr => allDPh.all fun d => allIPh.all fun i => allRes.all fun res =>
    !ctrlOK mode cr d i res ||
  allDConn.all fun dc => !dcOK d dc || allBool.all fun ps => !psOK d ps ||
  allBool.all fun srvFail => allAPh.all fun a => entryOK (mk mode srvFail cr d i a dc ps res)

theorem table_ok : tableOK = true := by
  -- each op's own branch of `step` is put in place of `step s op` first: the kernel would copy all of `step` each time
  simp only [tableOK, entryOK, facts, drain, drainOps, stepT, allOp, allNote, List.map_cons, List.map_nil,
    List.cons_append, List.nil_append, List.all_cons, List.all_nil, stepOK, step, note]
  decide +kernel

theorem good_init (m : Mode) (l f : Bool) : good (init m l f) = true := by
  cases m <;> cases l <;> cases f <;> rfl

theorem table_entry {s : S} (h : good s = true) : entryOK s = true := by
  simp only [good, Bool.and_eq_true] at h
  obtain ⟨he, hd, hp⟩ := eq_mk_of_shapeOK s h.1
  have ht := table_ok
  simp only [tableOK, List.all_eq_true, Bool.or_eq_true, Bool.not_eq_true'] at ht
  have h1 := (ht s.mode (mem_allMode _) s.cr (mem_allBool _) s.d (mem_allDPh _) s.i (mem_allIPh _)
    s.res (mem_allRes _)).resolve_left (by simp [h.2])
  have h2 := ((h1 s.dc (mem_allDConn _)).resolve_left (by simp [hd]) s.ps (mem_allBool _)).resolve_left (by simp [hp])
  rw [he]
  exact h2 s.srvFail (mem_allBool _) s.a (mem_allAPh _)

theorem good_facts {s : S} (h : good s = true) :
    ReturnsIff s ∧ RaisesOtherwise s ∧ NoLeftovers s ∧ DrainsTo s (drain s) := by
  have ht := table_entry h
  simp only [entryOK, facts, Bool.and_eq_true, decide_eq_true_eq] at ht
  obtain ⟨⟨⟨⟨a, b⟩, c⟩, d⟩, _⟩ := ht
  exact ⟨a, b, c, d⟩

theorem step_ok {s s' : S} {op : Op} (h : good s = true) (hs : step s op = some s') :
    good s' = true ∧ frameOK s op s' = true ∧ (s.res ≠ .pending → s'.res = s.res) := by
  have ht := table_entry h
  simp only [entryOK, Bool.and_eq_true, List.all_eq_true] at ht
  have := ht.2 op (mem_allOp op)
  simp only [stepOK, hs, Bool.and_eq_true, Bool.or_eq_true] at this
  obtain ⟨⟨a, b⟩, c⟩ := this
  refine ⟨a, b, fun hp => ?_⟩
  rcases c with c | c
  · cases hr : s.res <;> simp_all
  · exact eq_of_beq c

theorem good_stepT {s : S} (op : Op) (h : good s = true) : good (stepT s op) = true := by
  unfold stepT
  cases hs : step s op with
  | none => simpa using h
  | some s' => simpa using (step_ok h hs).1

theorem res_stepT {s : S} (op : Op) (hg : good s = true) (h : s.res ≠ .pending) : (stepT s op).res = s.res := by
  unfold stepT
  cases hs : step s op with
  | none => rfl
  | some s' => exact (step_ok hg hs).2.2 h

theorem run_append (m : Mode) (l f : Bool) (ops ops' : List Op) :
    run m l f (ops ++ ops') = ops'.foldl stepT (run m l f ops) := by
  simp [run, List.foldl_append]

theorem good_run (m : Mode) (l f : Bool) (ops : List Op) : good (run m l f ops) = true :=
  List.foldlRecOn ops stepT (motive := fun s => good s = true) (good_init m l f) fun _ hs op _ => good_stepT op hs

end AioslskVerif.PeerConnect
