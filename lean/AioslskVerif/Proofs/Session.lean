import AioslskVerif.Model.Session
/-! The burst as a multiset, the task inventory against the scanned source, and the session life cycle: a step is
taken apart once (`step_cases`), every invariant of the reachable states is proved case by case from that. -/
namespace AioslskVerif.Session

theorem count_map_inj {α β} [DecidableEq α] [DecidableEq β] (f : α → β)
    (hf : ∀ a b, f a = f b → a = b) (a : α) (l : List α) :
    (l.map f).count (f a) = l.count a := by
  induction l with
  | nil => rfl
  | cons x xs ih =>
    by_cases h : x = a
    · subst h; simp [ih]
    · have : f x ≠ f a := fun e => h (hf _ _ e)
      simp [ih, h, this]

theorem count_map_ne {α β} [DecidableEq β] (f : α → β) (b : β) (hf : ∀ a, f a ≠ b) (l : List α) :
    (l.map f).count b = 0 := by
  induction l with
  | nil => rfl
  | cons x xs ih => simp [ih, hf x]

theorem burst_count (c : Config) (e : Env) (h : c.WF) (f : Frame) :
    (burst c e).count f = mustTell c e f := by
  obtain ⟨hf, hl, hh, hv⟩ := h
  -- a frame of one kind is sent by one handler, as the image of a duplicate-free list under its constructor:
  -- the other handlers count 0 (`count_map_ne`), that one counts the list (`count_map_inj`), once per member
  -- (`List.Nodup.count`)
  cases f <;>
    simp [burst, hNetwork, hDistributed, hUsers, hRooms, hInterests, hShares, mustTell, trackSet,
      List.count_cons, List.count_append, count_map_ne, count_map_inj, List.Nodup.count hl, List.Nodup.count hh,
      List.Nodup.count hv, List.Nodup.count (hf.filter _), apply_ite (List.count _)]
  case joinRoom r => cases c.autoJoin <;> simp
  case addUser u =>
    -- the own name is tracked once, whether or not it is also listed as a friend
    by_cases h1 : c.username = u
    · subst h1; simp
    · have h1' : ¬ u = c.username := fun e => h1 e.symm
      by_cases h2 : u ∈ c.friends <;> simp [h1, h1', h2]

/-- Compared as sets: the scanner meets the sites in the order of the source files. -/
theorem sites_same : (∀ k ∈ Generated.TaskSites.sites, k ∈ Site.all.map Site.key) ∧
    (∀ s ∈ Site.all, s.key ∈ Generated.TaskSites.sites) := by decide +kernel

theorem Site.mem_all (s : Site) : s ∈ Site.all := by
  cases s <;> decide

-- Evaluating `present` compares strings byte by byte, which is dear: it is done once, for all sites, by the
-- kernel alone (`decide` would evaluate a second time to find the proof).
theorem present_all (k : Site) : k.path.present = true :=
  List.all_eq_true.mp (by decide +kernel : Site.all.all (fun k => k.path.present) = true) k (Site.mem_all k)

theorem covered_all (k : Site) : covered k = true := by
  -- with every path present, a race child is covered as soon as the names of its creators are sites
  simp only [covered, present_all, Bool.true_and]
  cases k <;> decide +kernel

/-- `stop()` with every path of the inventory present: every task of the library ends. -/
theorem doStop_eq (c : Config) (st : State) :
    doStop c st =
      ({ (closeServer .requested { st with wd := .off, logConn := false }).1 with
          stopped := true, listening := 0, scan := false, userMgmt := false, tracked := [], users := false,
          transferMgmt := false, transferProgress := false, wishlist := false, searchTimers := 0,
          wishlistTimers := 0, pp := [], sr := [], parent := none, children := 0, orphans := [] },
       (closeServer .requested { st with wd := .off, logConn := false }).2) := by
  simp only [doStop, covered_all, if_true, Bool.not_true, Bool.and_false, Bool.and_self]

def nInit (o : List Obs) : Nat := o.count .sessionInit
def nDestr (o : List Obs) : Nat := o.count .sessionDestroyed
def b2n (b : Bool) : Nat := if b then 1 else 0

def obsClosed (o : List Obs) : Bool := o.any (fun x => match x with | .closed _ => true | _ => false)

theorem nInit_append (a b : List Obs) : nInit (a ++ b) = nInit a + nInit b := by simp [nInit]
theorem nDestr_append (a b : List Obs) : nDestr (a ++ b) = nDestr a + nDestr b := by simp [nDestr]
theorem obsClosed_append (a b : List Obs) : obsClosed (a ++ b) = (obsClosed a || obsClosed b) := by
  simp [obsClosed]

/-- no session initialised or destroyed, no CLOSED reported: the `silent` and `tell` cases of `step_cases` -/
def Silent (o : List Obs) : Prop := nInit o = 0 ∧ nDestr o = 0 ∧ obsClosed o = false

attribute [local simp] nInit nDestr obsClosed Silent

/-- the part of the state the life cycle is about -/
def State.life (st : State) := (st.conn, st.session, st.ping, st.reader, st.wd, st.started, st.stopped)

theorem life_eq {a b : State} (e : b.life = a.life) :
    b.conn = a.conn ∧ b.session = a.session ∧ b.ping = a.ping ∧ b.reader = a.reader ∧ b.wd = a.wd ∧
    b.started = a.started ∧ b.stopped = a.stopped := by
  simpa [State.life] using e

theorem tellPosition_silent (c : Config) (st : State) :
    (tellPosition c st).1.life = st.life ∧ Silent (tellPosition c st).2 := by
  unfold tellPosition; split <;> simp [State.life]

/-- Most of the alphabet does not touch the life cycle: a property of a step follows from its eight life-cycle cases,
    one case for telling the branch position, and one for everything else. -/
theorem step_cases {P : State × List Obs → Prop} (c : Config) (st : State) (op : Op)
    (silent : ∀ st' o, st'.life = st.life → st'.told = st.told → st'.parent = st.parent → Silent o → P (st', o))
    (tell : ∀ s, (tellPosition c s).1.life = st.life → Silent (tellPosition c s).2 → P (tellPosition c s))
    (start : st.started = false → st.conn = .uninit → P (doStart c st))
    (login : st.conn = .connected ∧ st.session = false ∧ st.reader = false ∧ st.stopped = false → P (doLogin c st))
    (loginBreak : ∀ pos d b, st.conn = .connected ∧ st.session = false ∧ st.reader = false ∧ st.stopped = false →
      P (doLoginBreak c pos d b st))
    (loss : ∀ r, st.conn = .connected → P (closeServer r st))
    (lossHeld : ∀ r b, st.conn = .connected →
      P ({ (closeServer r st).1 with held := b :: (closeServer r st).1.held }, (closeServer r st).2))
    (connect : st.started = true ∧ st.stopped = false ∧ st.conn = .closed ∧ st.wd.isSleeping = false →
      P (doConnect c st))
    (tick : P (tickWd c (ageAll st)))
    (stop : st.started = true ∧ st.stopped = false → P (doStop c st)) :
    P (step c st op) := by
  have quiet : ∀ {o}, Silent o → P (st, o) := silent st _ rfl rfl rfl
  have invalid : P (st, [.invalid]) := quiet (by simp)
  have tell s (e : s.life = st.life) : P (tellPosition c s) :=
    tell s ((tellPosition_silent c s).1.trans e) (tellPosition_silent c s).2
  cases op with
  | start =>
    simp only [step]; split
    · exact invalid
    · rename_i h; simp only [not_or, Decidable.not_not, Bool.not_eq_true] at h; exact start h.1 h.2
  | login =>
    simp only [step]; split
    · exact login ‹_›
    · exact invalid
  | loginBreak pos d b =>
    simp only [step]; split
    · exact loginBreak _ _ _ ‹_›
    · exact invalid
  | loss r =>
    simp only [step]; split
    · exact loss r (‹_ ∧ _›).1
    · exact invalid
  | lossHeld r =>
    simp only [step]; split
    · exact lossHeld r _ (‹_ ∧ _›).1
    · exact invalid
  | connect =>
    simp only [step]; split
    · exact connect ‹_›
    · exact invalid
  | tick => exact tick
  | stop =>
    simp only [step]; split
    · exact stop ‹_›
    · exact invalid
  | parentAdopt _ _ _ | parentLevel _ | parentLoss =>
    simp only [step]; split
    · exact tell _ rfl
    · exact invalid
  | parentRoot root =>
    simp only [step]; split
    · split
      · exact quiet (by simp)
      · exact tell _ rfl
    · exact invalid
  | _ =>
    -- refused, or an update of fields outside `life`, `told` and `parent`
    simp only [step]
    repeat' split
    all_goals exact silent _ _ rfl rfl rfl (by simp)

theorem applyBreak_cases {P : State × List Obs → Prop} (c : Config) (b : Break) (s : State)
    (close : ∀ r, P (closeServer r s)) (stop : P (doStop c s)) : P (applyBreak c b s) := by
  cases b with
  | stop => exact stop
  | _ => exact close _

/-- the state in which `login()` has created the session and the listeners are running -/
def inBurst (st : State) : State := { st with session := true, users := true }

/-- the state after a complete accepted login -/
def loginDone (c : Config) (st : State) : State :=
  { st with session := true, reader := true, tracked := trackSet c, users := true, told := some (position c st) }

def loginObs (c : Config) (st : State) : List Obs :=
  [.loginSent, .sessionInit, .frames (burst c (envOf c st)), .loginResult .ok]

/-- A break hits a `login()` before the reply, inside the burst or after it (an EOF of the server inside the burst
    is found after it), in each case as `applyBreak` on the state reached; a failing write after the last one is no
    break. -/
theorem doLoginBreak_cases {P : State × List Obs → Prop} (c : Config) (pos : Option Nat) (d : Nat) (b : Break)
    (st : State)
    (before : P ((applyBreak c b st).1,
      (if b = .writeFail then [] else [.loginSent]) ++ (applyBreak c b st).2 ++ [.loginResult .error]))
    (within : ∀ n, P ((applyBreak c b (inBurst st)).1,
      [.loginSent, .sessionInit, .frames ((burst c (envOf c st)).take n)] ++ (applyBreak c b (inBurst st)).2 ++
        [.loginResult .ok]))
    (after : P ((applyBreak c b (loginDone c st)).1, loginObs c st ++ (applyBreak c b (loginDone c st)).2))
    (done : b = .writeFail → P (loginDone c st, loginObs c st)) :
    P (doLoginBreak c pos d b st) := by
  cases pos with
  | none => exact before
  | some j =>
    simp only [doLoginBreak, doLogin]
    split
    · cases b with
      | writeFail => exact done rfl
      | _ => exact after
    · cases b with
      | srvEof => exact after
      | _ => exact within _

theorem step_loginBreak_within (c : Config) (st : State) (j d : Nat) (b : Break)
    (hg : st.conn = .connected ∧ st.session = false ∧ st.reader = false ∧ st.stopped = false)
    (hj : j < (burst c (envOf c st)).length) (hb : b ≠ .srvEof) :
    step c st (.loginBreak (some j) d b) =
      ((applyBreak c b (inBurst st)).1,
       [.loginSent, .sessionInit, .frames ((burst c (envOf c st)).take (min (j + 1) d))] ++
         (applyBreak c b (inBurst st)).2 ++ [.loginResult .ok]) := by
  simp only [step, doLoginBreak]
  rw [if_pos hg, if_neg (Nat.not_le.2 hj)]
  cases b with
  | srvEof => exact absurd rfl hb
  | _ => rfl

theorem run_cons (c : Config) (st : State) (op : Op) (ops : List Op) :
    run c st (op :: ops) =
      ((run c (step c st op).1 ops).1, (step c st op).2 ++ (run c (step c st op).1 ops).2) := rfl

theorem run_append (c : Config) (a b : List Op) : ∀ st,
    run c st (a ++ b) = ((run c (run c st a).1 b).1, (run c st a).2 ++ (run c (run c st a).1 b).2) := by
  induction a with
  | nil => intro st; simp [run]
  | cons op a ih => intro st; simp [run, ih, List.append_assoc]

theorem run_induction {c : Config} {P : State → Prop} (hstep : ∀ st op, P st → P (step c st op).1) :
    ∀ ops st, P st → P (run c st ops).1
  | [], _, h => h
  | op :: ops, st, h => run_induction hstep ops _ (hstep st op h)

/-- induction over a history for a state invariant `P` together with a relation `R` between a state and a
    transition from it -/
theorem run_rel {c : Config} {P : State → Prop} {R : State → State × List Obs → Prop} (refl : ∀ st, R st (st, []))
    (comp : ∀ {st a o r}, R st (a, o) → R a r → R st (r.1, o ++ r.2)) : ∀ (ops : List Op),
    (∀ st, P st → ∀ op ∈ ops, P (step c st op).1 ∧ R st (step c st op)) →
    ∀ st, P st → P (run c st ops).1 ∧ R st (run c st ops)
  | [], _, st, h => ⟨h, refl st⟩
  | op :: ops, hs, st, h =>
    have h1 := hs st h op List.mem_cons_self
    have h2 := run_rel refl comp ops (fun s hp o ho => hs s hp o (List.mem_cons_of_mem _ ho)) _ h1.1
    ⟨h2.1, comp h1.2 h2.2⟩

theorem run_silent {c : Config} {P : State → Prop} (ops : List Op)
    (hs : ∀ st, P st → ∀ op ∈ ops, P (step c st op).1 ∧ (step c st op).2 = []) (st : State) (h : P st) :
    (run c st ops).2 = [] :=
  (run_rel (R := fun _ r => r.2 = []) (fun _ => rfl) (fun h1 h2 => List.append_eq_nil_iff.2 ⟨h1, h2⟩) ops hs st h).2

/-- What holds of the life-cycle fields between operations. -/
structure Inv (st : State) : Prop where
  offline : st.conn ≠ .connected → st.ping = false ∧ st.reader = false ∧ st.session = false
  sleeping_closed : ∀ n, st.wd = .sleeping n → st.conn = .closed
  -- the transient states are never observed between operations
  not_closing : st.conn ≠ .closing
  not_connecting : st.conn ≠ .connecting
  connected_started : st.conn = .connected → st.started = true
  wd_started : st.wd ≠ .off → st.started = true

theorem inv_init : Inv init := by
  constructor <;> simp [init]

theorem Inv.of_life {a b : State} (h : Inv a) (e : b.life = a.life) : Inv b := by
  obtain ⟨e1, e2, e3, e4, e5, e6, _⟩ := life_eq e
  obtain ⟨h1, h2, h3, h4, h5, h6⟩ := h
  constructor <;> simp only [e1, e2, e3, e4, e5, e6] <;> assumption

/-- with the server connection up, `Inv` reads nothing but the connection, the watchdog and `started` -/
theorem Inv.online {a b : State} (h : Inv a) (hc : a.conn = .connected) (e1 : b.conn = a.conn) (e2 : b.wd = a.wd)
    (e3 : b.started = a.started) : Inv b where
  offline hn := absurd (e1.trans hc) hn
  sleeping_closed n hw := e1 ▸ h.sleeping_closed n (e2 ▸ hw)
  not_closing := e1 ▸ h.not_closing
  not_connecting := e1 ▸ h.not_connecting
  connected_started _ := e3 ▸ h.connected_started hc
  wd_started hw := e3 ▸ h.wd_started (e2 ▸ hw)

theorem Inv.session_connected {st : State} (h : Inv st) (hs : st.session = true) : st.conn = .connected :=
  Decidable.byContradiction fun hc => by simpa [hs] using (h.offline hc).2.2

theorem inv_closeServer (r : Reason) (st : State) (h : Inv st) : Inv (closeServer r st).1 := by
  unfold closeServer; split
  · exact h
  · refine ⟨by simp, by simp, by simp, by simp, by simp, fun hw => h.wd_started fun e => hw ?_⟩
    simp [e]

/-- the same for a state in the transient CONNECTING (a failed connect attempt) -/
theorem inv_closeServer_connecting (r : Reason) (st : State) (hc : st.conn = .connecting)
    (hs : st.started = true) : Inv (closeServer r st).1 := by
  constructor <;> simp [closeServer, hc, hs]

theorem inv_doLogin (c : Config) (st : State) (h : Inv st) (hc : st.conn = .connected) :
    Inv (doLogin c st).1 := by
  unfold doLogin; split
  · exact h.online hc rfl rfl rfl
  · exact h
  · exact h
  · exact inv_closeServer _ _ h

theorem inv_reconnect (c : Config) (st : State) (hs : st.started = true) : Inv (reconnect c st).1 := by
  have h1 : Inv { st with conn := .connected, ping := true, wd := .idle } := by constructor <;> simp [hs]
  unfold reconnect; split
  · split
    · exact inv_doLogin _ _ h1 rfl
    · exact h1
  · exact inv_closeServer_connecting _ _ rfl hs

theorem inv_tickWd (c : Config) (st : State) (h : Inv st) : Inv (tickWd c st).1 := by
  unfold tickWd; split
  · exact h
  · split
    · rename_i hc
      exact { h with sleeping_closed := fun _ _ => hc.1, wd_started := fun _ => h.wd_started (by simp [*]) }
    · exact h
  · rename_i n hw
    have hs := h.wd_started (by simp [hw])
    split
    · exact inv_reconnect _ _ hs
    · exact { h with sleeping_closed := fun _ _ => h.sleeping_closed n hw, wd_started := fun _ => hs }

theorem inv_doStart (c : Config) (st : State) (h : Inv st) (hu : st.conn = .uninit) : Inv (doStart c st).1 := by
  have h1 := h.offline (by simp [hu])
  have h2 : ∀ n, st.wd ≠ .sleeping n := fun n e => by simpa [hu] using h.sleeping_closed n e
  unfold doStart; simp only []; split
  · constructor <;> simp [hu, h1, h2]
  · split
    · cases c.reconnectAuto <;> constructor <;> simp
    · apply inv_closeServer_connecting <;> rfl

theorem inv_wdOff (st : State) (h : Inv st) : Inv { st with wd := .off, logConn := false } :=
  { h with sleeping_closed := by simp, wd_started := by simp }

theorem inv_doStop (c : Config) (st : State) (h : Inv st) : Inv (doStop c st).1 := by
  rw [doStop_eq]
  -- what `stop()` sets after closing the connection is nothing `Inv` reads
  exact { inv_closeServer .requested _ (inv_wdOff st h) with }

theorem inv_applyBreak (c : Config) (b : Break) (st : State) (h : Inv st) : Inv (applyBreak c b st).1 :=
  applyBreak_cases c b st (P := fun r => Inv r.1) (fun r => inv_closeServer r st h) (inv_doStop c st h)

theorem inv_inBurst (st : State) (h : Inv st) (hc : st.conn = .connected) : Inv (inBurst st) :=
  h.online hc rfl rfl rfl

theorem inv_loginDone (c : Config) (st : State) (h : Inv st) (hc : st.conn = .connected) : Inv (loginDone c st) :=
  h.online hc rfl rfl rfl

theorem inv_doLoginBreak (c : Config) (pos : Option Nat) (d : Nat) (b : Break) (st : State) (h : Inv st)
    (hc : st.conn = .connected) : Inv (doLoginBreak c pos d b st).1 :=
  doLoginBreak_cases c pos d b st (P := fun r => Inv r.1) (inv_applyBreak c b st h)
    (fun _ => inv_applyBreak c b _ (inv_inBurst st h hc)) (inv_applyBreak c b _ (inv_loginDone c st h hc))
    (fun _ => inv_loginDone c st h hc)

theorem inv_doConnect (c : Config) (st : State) (hs : st.started = true) (hw : st.wd.isSleeping = false) :
    Inv (doConnect c st).1 := by
  unfold doConnect; split
  · refine ⟨by simp, fun n hn => ?_, by simp, by simp, fun _ => hs, fun _ => hs⟩
    cases ha : c.reconnectAuto <;> simp [ha] at hn
    simp [hn, Wd.isSleeping] at hw
  · exact inv_closeServer_connecting _ _ rfl hs

theorem inv_step (c : Config) (st : State) (op : Op) (h : Inv st) : Inv (step c st op).1 :=
  step_cases c st op (P := fun r => Inv r.1)
    (silent := fun _ _ e _ _ _ => h.of_life e)
    (tell := fun _ e _ => h.of_life e)
    (start := fun _ hu => inv_doStart c st h hu)
    (login := fun hg => inv_doLogin c st h hg.1)
    (loginBreak := fun pos d b hg => inv_doLoginBreak c pos d b st h hg.1)
    (loss := fun r _ => inv_closeServer r st h)
    (lossHeld := fun r _ _ => (inv_closeServer r st h).of_life rfl)
    (connect := fun hg => inv_doConnect c st hg.1 hg.2.2.2)
    (tick := inv_tickWd c _ (h.of_life rfl))
    (stop := fun _ => inv_doStop c st h)

/-- the session account of a transition from `st`: what was initialised is destroyed or still there -/
def Bal (st : State) (r : State × List Obs) : Prop :=
  nDestr r.2 + b2n r.1.session = nInit r.2 + b2n st.session

theorem Bal.comp {st a : State} {pre : List Obs} {r : State × List Obs} (h1 : Bal st (a, pre)) (h2 : Bal a r) :
    Bal st (r.1, pre ++ r.2) := by
  simp only [Bal, nInit_append, nDestr_append] at *; omega

theorem Bal.post {st s : State} {o post : List Obs} (h : Bal st (s, o)) (hp : Silent post) :
    Bal st (s, o ++ post) := by
  simp only [Bal, nInit_append, nDestr_append, hp.1, hp.2.1] at *; omega

theorem bal_closeServer (r : Reason) (st : State) : Bal st (closeServer r st) := by
  unfold closeServer; split
  · simp [Bal]
  · cases hs : st.session <;> simp [Bal, b2n, hs]

theorem bal_doStop (c : Config) (st : State) : Bal st (doStop c st) := by
  rw [doStop_eq]; exact bal_closeServer .requested { st with wd := .off, logConn := false }

theorem bal_applyBreak (c : Config) (b : Break) (st : State) : Bal st (applyBreak c b st) :=
  applyBreak_cases c b st (fun r => bal_closeServer r st) (bal_doStop c st)

/-- the transition closes the connected server connection of `s`: its session is destroyed, nothing of it is left -/
def Closes (s : State) (r : State × List Obs) : Prop :=
  r.1.session = false ∧ r.1.tracked = [] ∧ r.1.reader = false ∧ r.1.conn = .closed ∧ nInit r.2 = 0 ∧
  nDestr r.2 = b2n s.session

theorem closes_closeServer (r : Reason) (s : State) (hc : s.conn = .connected) : Closes s (closeServer r s) := by
  cases hs : s.session <;> simp [Closes, closeServer, hc, hs, b2n]

theorem closes_applyBreak (c : Config) (b : Break) (s : State) (hc : s.conn = .connected) :
    Closes s (applyBreak c b s) := by
  refine applyBreak_cases c b s (fun r => closes_closeServer r s hc) ?_
  rw [doStop_eq]
  obtain ⟨h1, _, h3, h4, h5, h6⟩ := closes_closeServer .requested { s with wd := .off, logConn := false } hc
  exact ⟨h1, rfl, h3, h4, h5, h6⟩

theorem bal_doLogin (c : Config) (st : State) (hs : st.session = false) : Bal st (doLogin c st) := by
  unfold doLogin; split
  · simp [Bal, b2n, hs]
  · simp [Bal]
  · simp [Bal]
  · exact (Bal.comp (a := st) (pre := [.loginSent]) (by simp [Bal]) (bal_closeServer .eof st)).post (by simp)

theorem bal_doLoginBreak (c : Config) (pos : Option Nat) (d : Nat) (b : Break) (st : State)
    (hs : st.session = false) : Bal st (doLoginBreak c pos d b st) :=
  have hd : Bal st (loginDone c st, loginObs c st) := by simp [Bal, loginObs, loginDone, b2n, hs]
  doLoginBreak_cases c pos d b st
    ((Bal.comp (a := st) (by split <;> simp [Bal]) (bal_applyBreak c b st)).post (by simp))
    (fun _ => (Bal.comp (a := inBurst st) (by simp [Bal, inBurst, b2n, hs]) (bal_applyBreak c b _)).post (by simp))
    (hd.comp (bal_applyBreak c b _)) (fun _ => hd)

theorem bal_reconnect (c : Config) (st : State) (hs : st.session = false) : Bal st (reconnect c st) := by
  unfold reconnect; split
  · split
    · exact Bal.comp (a := { st with conn := .connected, ping := true, wd := .idle }) (by simp [Bal])
        (bal_doLogin c _ hs)
    · simp [Bal]
  · exact Bal.comp (a := { st with conn := .connecting, wd := .idle }) (by simp [Bal]) (bal_closeServer _ _)

theorem bal_tickWd (c : Config) (st : State) (h : Inv st) : Bal st (tickWd c st) := by
  unfold tickWd; split
  · simp [Bal]
  · split <;> simp [Bal]
  · rename_i n hw
    split
    · exact bal_reconnect c st (h.offline (by simp [h.sleeping_closed n hw])).2.2
    · simp [Bal]

theorem bal_doStart (c : Config) (st : State) : Bal st (doStart c st) := by
  unfold doStart; simp only []; split
  · simp [Bal]
  · split
    · simp [Bal]
    · exact (Bal.comp (pre := [.attempt]) (by simp [Bal]) (bal_closeServer _ _)).post (by simp)

theorem bal_doConnect (c : Config) (st : State) : Bal st (doConnect c st) := by
  unfold doConnect; split
  · simp [Bal]
  · exact (Bal.comp (pre := [.attempt]) (by simp [Bal]) (bal_closeServer _ _)).post (by simp)

theorem Bal.silent {st st' : State} {o : List Obs} (e : st'.life = st.life) (ho : Silent o) : Bal st (st', o) := by
  simp only [Bal, ho.1, ho.2.1, (life_eq e).2.1]

theorem bal_step (c : Config) (st : State) (op : Op) (h : Inv st) : Bal st (step c st op) :=
  step_cases c st op
    (silent := fun _ _ e _ _ ho => Bal.silent e ho)
    (tell := fun _ => Bal.silent)
    (start := fun _ _ => bal_doStart c st)
    (login := fun hg => bal_doLogin c st hg.2.1)
    (loginBreak := fun pos d b hg => bal_doLoginBreak c pos d b st hg.2.1)
    (loss := fun r _ => bal_closeServer r st)
    (lossHeld := fun r _ _ => bal_closeServer r st)
    (connect := fun _ => bal_doConnect c st)
    (tick := bal_tickWd c _ (h.of_life rfl))
    (stop := fun _ => bal_doStop c st)

theorem bal_run (c : Config) (ops : List Op) (st : State) (h : Inv st) : Bal st (run c st ops) :=
  (run_rel (fun _ => by simp [Bal]) Bal.comp ops (fun st h op _ => ⟨inv_step c st op h, bal_step c st op h⟩) st h).2

/-- a transition that reports the server connection CLOSED leaves no server-derived state -/
def Reset (r : State × List Obs) : Prop := obsClosed r.2 = true → cleared r.1

theorem Reset.of_obs {r : State × List Obs} {o : List Obs} (h : Reset r) (e : obsClosed o = obsClosed r.2) :
    Reset (r.1, o) := by
  simpa only [Reset, e] using h

theorem Reset.of_silent {s : State} {o : List Obs} (h : obsClosed o = false) : Reset (s, o) := by
  simp only [Reset, h]; exact fun e => nomatch e

theorem reset_closeServer (r : Reason) (st : State) : Reset (closeServer r st) := by
  unfold closeServer; split
  · exact .of_silent rfl
  · intro _; simp [cleared]

theorem reset_doStop (c : Config) (st : State) : Reset (doStop c st) := by
  rw [doStop_eq]
  intro h
  obtain ⟨_, _, h3, h4, h5⟩ := reset_closeServer _ _ h
  exact ⟨rfl, rfl, h3, h4, h5⟩

theorem reset_applyBreak (c : Config) (b : Break) (st : State) : Reset (applyBreak c b st) :=
  applyBreak_cases c b st (fun r => reset_closeServer r st) (reset_doStop c st)

theorem reset_doLogin (c : Config) (st : State) : Reset (doLogin c st) := by
  unfold doLogin; split
  · exact .of_silent (by simp)
  · exact .of_silent (by simp)
  · exact .of_silent (by simp)
  · exact (reset_closeServer .eof st).of_obs (by simp)

theorem reset_doLoginBreak (c : Config) (pos : Option Nat) (d : Nat) (b : Break) (st : State) :
    Reset (doLoginBreak c pos d b st) :=
  doLoginBreak_cases c pos d b st
    ((reset_applyBreak c b st).of_obs (by split <;> simp))
    (fun _ => (reset_applyBreak c b _).of_obs (by simp))
    ((reset_applyBreak c b _).of_obs (by simp [loginObs])) (fun _ => .of_silent (by simp [loginObs]))

theorem reset_reconnect (c : Config) (st : State) : Reset (reconnect c st) := by
  unfold reconnect; split
  · split
    · exact (reset_doLogin c _).of_obs (by simp)
    · exact .of_silent (by simp)
  · exact (reset_closeServer _ _).of_obs (by simp)

theorem reset_tickWd (c : Config) (st : State) : Reset (tickWd c st) := by
  unfold tickWd; split
  · exact .of_silent rfl
  · split <;> exact .of_silent rfl
  · split
    · exact reset_reconnect c st
    · exact .of_silent rfl

theorem reset_doStart (c : Config) (st : State) : Reset (doStart c st) := by
  unfold doStart; simp only []; split
  · exact .of_silent (by simp)
  · split
    · exact .of_silent (by simp)
    · exact (reset_closeServer _ _).of_obs (by simp)

theorem reset_doConnect (c : Config) (st : State) : Reset (doConnect c st) := by
  unfold doConnect; split
  · exact .of_silent (by simp)
  · exact (reset_closeServer _ _).of_obs (by simp)

theorem reset_step (c : Config) (st : State) (op : Op) : Reset (step c st op) :=
  step_cases c st op
    (silent := fun _ _ _ _ _ ho => .of_silent ho.2.2)
    (tell := fun _ _ ho => .of_silent ho.2.2)
    (start := fun _ _ => reset_doStart c st)
    (login := fun _ => reset_doLogin c st)
    (loginBreak := fun pos d b _ => reset_doLoginBreak c pos d b st)
    (loss := fun r _ => reset_closeServer r st)
    (lossHeld := fun r _ _ h => reset_closeServer r st h)
    (connect := fun _ => reset_doConnect c st)
    (tick := reset_tickWd c _)
    (stop := fun _ => reset_doStop c st)

/-- nothing of the library is left: no task, no socket, no session, and `stop()` has run -/
def Quiet (st : State) : Prop :=
  st.wd = .off ∧ st.ping = false ∧ st.reader = false ∧ st.userMgmt = false ∧ st.transferMgmt = false ∧
  st.transferProgress = false ∧ st.logConn = false ∧ st.scan = false ∧ st.wishlist = false ∧ st.tracked = [] ∧
  st.searchTimers = 0 ∧ st.wishlistTimers = 0 ∧ st.pp = [] ∧ st.conn ≠ .connected ∧ st.listening = 0 ∧
  st.session = false ∧ st.started = true ∧ st.stopped = true ∧ st.sr = [] ∧ st.orphans = [] ∧
  st.parent = none ∧ st.children = 0

theorem quiet_alive (c : Config) (st : State) (h : Quiet st) :
    alive c st = List.replicate st.heldReaders .reader ∧ openSockets st = 0 := by
  -- `unfold`, not `simp [alive]`: the equation lemmas simp would make for `alive` take seconds
  unfold Quiet at h
  unfold alive raceChildren
  simp [openSockets, peerConns, h]

theorem quiet_doStop (c : Config) (st : State) (h : Inv st) (hs : st.started = true) : Quiet (doStop c st).1 := by
  rw [doStop_eq]; unfold closeServer; split
  · -- the connection was closed already: `Inv` says that ping, reader and session are gone
    have hc : st.conn = .closed ∨ st.conn = .closing := ‹_›
    have hn : st.conn ≠ .connected := by rcases hc with hc | hc <;> simp [hc]
    simp [Quiet, h.offline hn, hn, hs]
  · simp [Quiet, hs]

theorem quiet_step (c : Config) (st : State) (op : Op) (h : Quiet st) :
    Quiet (step c st op).1 ∧ (∀ o ∈ (step c st op).2, o = .invalid ∨ o = .refused) ∧
    (step c st op).1.heldReaders ≤ st.heldReaders := by
  have hq := h
  -- the clauses of `Quiet`, for `simp` to rewrite with
  unfold Quiet at h
  cases op with
  | release =>
    simp only [step]; split
    · exact ⟨hq, by simp, by simp [State.heldReaders]⟩
    · exact ⟨hq, by simp, Nat.le_refl _⟩
  | tick =>
    -- no watchdog and no pending connect: time changes nothing
    have hw : (ageAll st).wd = .off := h.1
    simp only [step, tickWd, hw]
    exact ⟨by simp [Quiet, ageAll, agePP, h], by simp, Nat.le_refl _⟩
  | setSrvUp b => exact ⟨hq, by simp [step], Nat.le_refl _⟩
  | setSrvReply r => exact ⟨hq, by simp [step], Nat.le_refl _⟩
  | _ =>
    -- refused: the guard asks for a client that is not started or not stopped, a connected server connection, a
    -- session, a reader, a parent, a child or an open listening port
    simp [step, clearOpen, h, hq]

theorem quiet_run (c : Config) (ops : List Op) : ∀ st, Quiet st →
    Quiet (run c st ops).1 ∧ (∀ o ∈ (run c st ops).2, o = .invalid ∨ o = .refused) ∧
    (run c st ops).1.heldReaders ≤ st.heldReaders :=
  run_rel (R := fun st r => (∀ o ∈ r.2, o = .invalid ∨ o = .refused) ∧ r.1.heldReaders ≤ st.heldReaders)
    (fun _ => ⟨nofun, Nat.le_refl _⟩)
    (fun h1 h2 => ⟨fun o ho => (List.mem_append.mp ho).elim (h1.1 o) (h2.1 o), Nat.le_trans h2.2 h1.2⟩)
    ops (fun st h op _ => quiet_step c st op h)

-- Nothing but `stop()` sets `stopped`.
theorem stopped_closeServer (r : Reason) (st : State) : (closeServer r st).1.stopped = st.stopped := by
  unfold closeServer; split <;> rfl

theorem stopped_doLogin (c : Config) (st : State) : (doLogin c st).1.stopped = st.stopped := by
  unfold doLogin; split
  · rfl
  · rfl
  · rfl
  · exact stopped_closeServer _ _

theorem stopped_reconnect (c : Config) (st : State) : (reconnect c st).1.stopped = st.stopped := by
  unfold reconnect; split
  · split
    · exact stopped_doLogin _ _
    · rfl
  · exact stopped_closeServer _ _

theorem stopped_tickWd (c : Config) (st : State) : (tickWd c st).1.stopped = st.stopped := by
  unfold tickWd; split
  · rfl
  · split <;> rfl
  · split
    · exact stopped_reconnect _ _
    · rfl

theorem stopped_doStart (c : Config) (st : State) : (doStart c st).1.stopped = st.stopped := by
  unfold doStart; simp only []; split
  · rfl
  · split
    · rfl
    · exact stopped_closeServer _ _

theorem stopped_doConnect (c : Config) (st : State) : (doConnect c st).1.stopped = st.stopped := by
  unfold doConnect; split
  · rfl
  · exact stopped_closeServer _ _

/-- wherever `stop()` was called — between operations or inside a login in progress — nothing of the library is
    left -/
def StopInv (st : State) : Prop := st.stopped = true → Quiet st

theorem StopInv.of_not_stopped {a b : State} (hp : a.stopped = false) (e : b.stopped = a.stopped) : StopInv b := by
  intro hx; rw [e, hp] at hx; cases hx

/-- an interrupted login ends quiet when the interruption is `stop()`, and is not stopped otherwise -/
theorem stopinv_applyBreak (c : Config) (b : Break) (st : State) (h : Inv st) (hs : st.started = true)
    (hp : st.stopped = false) : StopInv (applyBreak c b st).1 :=
  applyBreak_cases c b st (P := fun r => StopInv r.1) (fun r => .of_not_stopped hp (stopped_closeServer r st))
    (fun _ => quiet_doStop c st h hs)

theorem stopinv_doLoginBreak (c : Config) (pos : Option Nat) (d : Nat) (b : Break) (st : State) (h : Inv st)
    (hc : st.conn = .connected) (hp : st.stopped = false) : StopInv (doLoginBreak c pos d b st).1 :=
  have hs : st.started = true := h.connected_started hc
  doLoginBreak_cases c pos d b st (P := fun r => StopInv r.1) (stopinv_applyBreak c b st h hs hp)
    (fun _ => stopinv_applyBreak c b _ (inv_inBurst st h hc) hs hp)
    (stopinv_applyBreak c b _ (inv_loginDone c st h hc) hs hp) (fun _ => .of_not_stopped hp rfl)

theorem stopinv_step (c : Config) (st : State) (op : Op) (hi : Inv st) (h : StopInv st) :
    StopInv (step c st op).1 := by
  by_cases hp : st.stopped = true
  · exact fun _ => (quiet_step c st op (h hp)).1
  · have hp : st.stopped = false := by simpa using hp
    have same : ∀ {s : State}, s.life = st.life → StopInv s := fun e => .of_not_stopped hp (life_eq e).2.2.2.2.2.2
    exact step_cases c st op (P := fun r => StopInv r.1)
      (silent := fun _ _ e _ _ _ => same e)
      (tell := fun _ e _ => same e)
      (start := fun _ _ => .of_not_stopped hp (stopped_doStart c st))
      (login := fun _ => .of_not_stopped hp (stopped_doLogin c st))
      (loginBreak := fun pos d b hg => stopinv_doLoginBreak c pos d b st hi hg.1 hp)
      (loss := fun r _ => .of_not_stopped hp (stopped_closeServer r st))
      (lossHeld := fun r _ _ => .of_not_stopped hp (stopped_closeServer r st))
      (connect := fun _ => .of_not_stopped hp (stopped_doConnect c st))
      (tick := .of_not_stopped hp (stopped_tickWd c _))
      (stop := fun hg _ => quiet_doStop c st hi hg.1)

/-- the watchdog is only ever started with `reconnect.auto`, and on a connected server connection it is running
    (polling) whenever `reconnect.auto` is on -/
def WInv (c : Config) (st : State) : Prop :=
  (st.wd ≠ .off → c.reconnectAuto = true) ∧ (st.conn = .connected → c.reconnectAuto = true → st.wd = .idle)

theorem WInv.same {c : Config} {a b : State} (h : WInv c a) (e1 : b.wd = a.wd) (e2 : b.conn = a.conn) :
    WInv c b := by
  simpa only [WInv, e1, e2] using h

theorem winv_closeServer (c : Config) (r : Reason) (st : State) (h : st.wd ≠ .off → c.reconnectAuto = true) :
    WInv c (closeServer r st).1 := by
  unfold closeServer; split
  · rename_i hc
    exact ⟨h, fun hcc => by rcases hc with hc | hc <;> simp [hc] at hcc⟩
  · refine ⟨fun hw => h fun e => hw ?_, by simp⟩
    simp [e]

theorem winv_doLogin (c : Config) (st : State) (h : WInv c st) : WInv c (doLogin c st).1 := by
  unfold doLogin; split
  · exact h.same rfl rfl
  · exact h
  · exact h
  · exact winv_closeServer c _ st h.1

theorem winv_reconnect (c : Config) (st : State) (ha : c.reconnectAuto = true) : WInv c (reconnect c st).1 := by
  unfold reconnect; split
  · exact winv_doLogin c _ ⟨fun _ => ha, fun _ _ => rfl⟩
  · exact winv_closeServer c _ _ (fun _ => ha)

theorem winv_tickWd (c : Config) (st : State) (h : WInv c st) (hi : Inv st) : WInv c (tickWd c st).1 := by
  unfold tickWd; split
  · exact h
  · rename_i hw
    split
    · rename_i hc
      exact ⟨fun _ => h.1 (by simp [hw]), fun hcc => by simp [hc.1] at hcc⟩
    · exact h
  · rename_i n hw
    split
    · exact winv_reconnect c st (h.1 (by simp [hw]))
    · exact ⟨fun _ => h.1 (by simp [hw]), fun hcc => by simp [hi.sleeping_closed n hw] at hcc⟩

theorem winv_doStart (c : Config) (st : State) (h : WInv c st) : WInv c (doStart c st).1 := by
  unfold doStart; simp only []; split
  · exact h.same rfl rfl
  · split
    · cases ha : c.reconnectAuto <;> simp [WInv, ha]
    · exact winv_closeServer c _ _ h.1

theorem winv_doStop (c : Config) (st : State) : WInv c (doStop c st).1 := by
  have := winv_closeServer c .requested { st with wd := .off, logConn := false } (fun h => absurd rfl h)
  rw [doStop_eq]; exact this.same rfl rfl

theorem winv_applyBreak (c : Config) (b : Break) (st : State) (h : WInv c st) : WInv c (applyBreak c b st).1 :=
  applyBreak_cases c b st (P := fun r => WInv c r.1) (fun r => winv_closeServer c r st h.1) (winv_doStop c st)

theorem winv_doLoginBreak (c : Config) (pos : Option Nat) (d : Nat) (b : Break) (st : State) (h : WInv c st) :
    WInv c (doLoginBreak c pos d b st).1 :=
  doLoginBreak_cases c pos d b st (P := fun r => WInv c r.1) (winv_applyBreak c b st h)
    (fun _ => winv_applyBreak c b _ (h.same rfl rfl)) (winv_applyBreak c b _ (h.same rfl rfl))
    (fun _ => h.same rfl rfl)

theorem winv_doConnect (c : Config) (st : State) (h : WInv c st) : WInv c (doConnect c st).1 := by
  unfold doConnect; split
  · cases ha : c.reconnectAuto <;> simp [WInv, ha]
    simpa [ha] using h.1
  · exact winv_closeServer c _ _ h.1

theorem winv_step (c : Config) (st : State) (op : Op) (hi : Inv st) (h : WInv c st) :
    WInv c (step c st op).1 :=
  have same : ∀ {s : State}, s.life = st.life → WInv c s := fun e => h.same (life_eq e).2.2.2.2.1 (life_eq e).1
  step_cases c st op (P := fun r => WInv c r.1)
    (silent := fun _ _ e _ _ _ => same e)
    (tell := fun _ e _ => same e)
    (start := fun _ _ => winv_doStart c st h)
    (login := fun _ => winv_doLogin c st h)
    (loginBreak := fun pos d b _ => winv_doLoginBreak c pos d b st h)
    (loss := fun r _ => winv_closeServer c r st h.1)
    (lossHeld := fun r _ _ => (winv_closeServer c r st h.1).same rfl rfl)
    (connect := fun _ => winv_doConnect c st h)
    (tick := winv_tickWd c _ (same rfl) (hi.of_life rfl))
    (stop := fun _ => winv_doStop c st)

theorem ageAll_wd (st : State) : (ageAll st).wd = st.wd := rfl
theorem ageAll_srvUp (st : State) : (ageAll st).srvUp = st.srvUp := rfl

theorem off_step (c : Config) (st : State) (op : Op) (he : op.isEnv = true) (h : st.wd = .off) :
    (step c st op).1.wd = .off ∧ (step c st op).2 = [] := by
  cases op <;> simp [Op.isEnv] at he <;> simp [step, tickWd, ageAll, h]

theorem off_run (c : Config) (ops : List Op) (st : State) (he : ∀ op ∈ ops, op.isEnv = true) (h : st.wd = .off) :
    (run c st ops).2 = [] :=
  run_silent ops (fun st h op hop => off_step c st op (he op hop) h) st h

/-- no credentials: the watchdog polls but never reconnects (network.py:386-392) -/
theorem nocreds_step (c : Config) (st : State) (hc : c.credsOk = false) (h : st.wd = .idle) :
    (step c st .tick).1.wd = .idle ∧ (step c st .tick).2 = [] := by
  simp [step, tickWd, ageAll, h, hc]

theorem nocreds_run (c : Config) (hc : c.credsOk = false) (n : Nat) (st : State) (h : st.wd = .idle) :
    (run c st (List.replicate n .tick)).2 = [] :=
  run_silent _ (fun st h _ hop => List.eq_of_mem_replicate hop ▸ nocreds_step c st hc h) st h

theorem sleeping_ticks (c : Config) : ∀ (n : Nat) (st : State), st.wd = .sleeping (n + 1) →
    ∃ pp sr orphans, run c st (List.replicate n .tick) =
      ({ st with wd := .sleeping 1, pp := pp, sr := sr, orphans := orphans }, []) := by
  intro n
  induction n with
  | zero => intro st h; exact ⟨st.pp, st.sr, st.orphans, by simp [run, ← h]⟩
  | succ n ih =>
    intro st h
    have hs : step c st .tick = ({ ageAll st with wd := .sleeping (n + 1) }, []) := by
      simp [step, tickWd, ageAll, h]
    obtain ⟨pp, sr, orphans, ht⟩ := ih { ageAll st with wd := .sleeping (n + 1) } rfl
    exact ⟨pp, sr, orphans, by rw [List.replicate_succ, run_cons, hs, ht]; rfl⟩

theorem sleeping_ticks' (c : Config) : ∀ (n : Nat) (st : State), st.wd = .sleeping (n + 1) →
    (run c st (List.replicate n .tick)).2 = [] ∧ (run c st (List.replicate n .tick)).1.wd = .sleeping 1 ∧
    (run c st (List.replicate n .tick)).1.srvUp = st.srvUp := by
  intro n st h
  obtain ⟨_, _, _, ht⟩ := sleeping_ticks c n st h
  rw [ht]; exact ⟨rfl, rfl, rfl⟩

/-- the reconnect delay followed by the attempt is ONE `reconnect`, on a state with the same server behaviour,
    distributed parent and share index -/
theorem idle_reconnect_run (c : Config) (st : State) (hw : st.wd = .idle) (hc : st.conn = .closed)
    (hk : c.credsOk = true) :
    ∃ s2 : State, run c st (List.replicate (reconnectTicks + 1) .tick) = reconnect c s2 ∧
      s2.srvUp = st.srvUp ∧ s2.srvReply = st.srvReply ∧ s2.parent = st.parent ∧ s2.stats = st.stats := by
  have h1 : step c st .tick = ({ ageAll st with wd := .sleeping reconnectTicks }, []) := by
    simp [step, tickWd, ageAll, hw, hc, hk]
  obtain ⟨pp, sr, orphans, ht⟩ :=
    sleeping_ticks c (reconnectTicks - 1) { ageAll st with wd := .sleeping reconnectTicks } rfl
  refine ⟨{ st with wd := .sleeping 1, pp := agePP pp, sr := agePP sr, orphans := agePP orphans },
    ?_, rfl, rfl, rfl, rfl⟩
  have hrep : List.replicate (reconnectTicks + 1) Op.tick =
      Op.tick :: (List.replicate (reconnectTicks - 1) Op.tick ++ [Op.tick]) := rfl
  rw [hrep, run_cons, h1, run_append, ht]
  simp [run, step, tickWd, ageAll]

theorem reconnect_attempt (c : Config) (st : State) : Obs.attempt ∈ (reconnect c st).2 := by
  unfold reconnect; split
  · split <;> simp
  · simp

theorem reconnect_loginSent (c : Config) (st : State) :
    Obs.loginSent ∈ (reconnect c st).2 ↔ (st.srvUp = true ∧ c.reconnectAuto = true) := by
  unfold reconnect
  by_cases hu : st.srvUp = true
  · by_cases ha : c.reconnectAuto = true
    · simp only [hu, ha, if_true, true_and, iff_true]
      apply List.mem_append_right
      unfold doLogin
      split <;> simp
    · simp [hu, ha]
  · simp [hu, closeServer]

theorem step_loss (c : Config) (st : State) (r : Reason) (hc : st.conn = .connected) (hv : r ≠ .connectFailed)
    (hr : (r = .eof ∨ r = .readError) → st.reader = true) : step c st (.loss r) = closeServer r st := by
  simp only [step]; rw [if_pos ⟨hc, hv, hr⟩]

theorem step_lossHeld (c : Config) (st : State) (r : Reason) (hc : st.conn = .connected) (hv : r ≠ .connectFailed)
    (hr : (r = .eof ∨ r = .readError) → st.reader = true) :
    step c st (.lossHeld r) =
      ({ (closeServer r st).1 with held := decide (r = .eof ∨ r = .readError) :: (closeServer r st).1.held },
       (closeServer r st).2) := by
  simp only [step]; rw [if_pos ⟨hc, hv, hr⟩]

/-- `s1` is any state the loss of the connected `st` leaves: listeners of the application may stay suspended in it. -/
theorem reconnect_law (c : Config) (st s1 : State) (r : Reason) (hw : WInv c st) (hc : st.conn = .connected)
    (ec : s1.conn = (closeServer r st).1.conn) (ew : s1.wd = (closeServer r st).1.wd)
    (eu : s1.srvUp = (closeServer r st).1.srvUp) :
    let obs := (closeServer r st).2 ++ (run c s1 (List.replicate (reconnectTicks + 1) .tick)).2
    (Obs.attempt ∈ obs ↔ (c.reconnectAuto = true ∧ r ≠ .requested ∧ r ≠ .eof ∧ c.credsOk = true)) ∧
    (Obs.loginSent ∈ obs ↔
      (c.reconnectAuto = true ∧ r ≠ .requested ∧ r ≠ .eof ∧ c.credsOk = true ∧ st.srvUp = true)) := by
  intro obs
  have k1 : s1.conn = .closed := by rw [ec]; simp [closeServer, hc]
  have k2 : s1.wd = if r = .requested ∨ r = .eof then .off else st.wd := by rw [ew]; simp [closeServer, hc]
  have k3 : s1.srvUp = st.srvUp := by rw [eu]; simp [closeServer, hc]
  have k4 : Obs.attempt ∉ (closeServer r st).2 ∧ Obs.loginSent ∉ (closeServer r st).2 := by
    simp [closeServer, hc]
  by_cases cond : c.reconnectAuto = true ∧ r ≠ .requested ∧ r ≠ .eof ∧ c.credsOk = true
  · obtain ⟨ha, hq, he, hk⟩ := cond
    obtain ⟨s2, hrun, hup, _⟩ := idle_reconnect_run c s1 (by simp [k2, hq, he, hw.2 hc ha]) k1 hk
    simp only [obs, hrun, List.mem_append, k4, false_or, reconnect_attempt, reconnect_loginSent, hup, k3]
    simp [ha, hq, he, hk]
  · -- the watchdog is off, or polls without credentials: the ticks show nothing
    have hquiet : (run c s1 (List.replicate (reconnectTicks + 1) .tick)).2 = [] := by
      by_cases hoff : s1.wd = .off
      · exact off_run c _ _ (fun op hop => by rw [List.eq_of_mem_replicate hop]; rfl) hoff
      · have hre : ¬ (r = .requested ∨ r = .eof) := fun h => hoff (by simp [k2, h])
        have hwd : s1.wd = st.wd := by simp [k2, hre]
        have ha := hw.1 (hwd ▸ hoff)
        refine nocreds_run c ?_ _ _ (by simp [hwd, hw.2 hc ha])
        cases hk : c.credsOk with
        | false => rfl
        | true => exact absurd ⟨ha, fun e => hre (.inl e), fun e => hre (.inr e), hk⟩ cond
    simp only [obs, hquiet, List.append_nil, k4, false_iff]
    exact ⟨cond, fun h => cond ⟨h.1, h.2.1, h.2.2.1, h.2.2.2.1⟩⟩

/-- whenever a session exists, the last branch position the CURRENT server connection was told is the position the
    client has -/
def PInv (c : Config) (st : State) : Prop := st.session = true → st.told = some (position c st)

theorem envOf_congr (c : Config) (a b : State) (h : a.parent = b.parent) (hs : a.stats = b.stats) :
    envOf c a = envOf c b := by
  simp [envOf, h, hs]

theorem position_congr (c : Config) (a b : State) (h : a.parent = b.parent) : position c a = position c b := by
  simp [position, positionOf, branchValues, envOf, h]

theorem PInv.same {c : Config} {a b : State} (h : PInv c a) (hs : b.session = a.session) (ht : b.told = a.told)
    (hp : b.parent = a.parent) : PInv c b := by
  intro hb
  rw [ht, position_congr c b a hp]
  exact h (hs ▸ hb)

theorem pinv_of_no_session (c : Config) (st : State) (h : st.session = false) : PInv c st := by
  intro hs; rw [h] at hs; cases hs

theorem pinv_tellPosition (c : Config) (st : State) : PInv c (tellPosition c st).1 := by
  unfold tellPosition; split
  · exact fun _ => rfl
  · exact pinv_of_no_session c st (Bool.eq_false_iff.2 ‹_›)

theorem pinv_closeServer (c : Config) (r : Reason) (st : State) (h : PInv c st) : PInv c (closeServer r st).1 := by
  unfold closeServer; split
  · exact h
  · exact pinv_of_no_session c _ rfl

theorem pinv_doLogin (c : Config) (st : State) (h : PInv c st) : PInv c (doLogin c st).1 := by
  unfold doLogin; split
  · exact fun _ => rfl
  · exact h
  · exact h
  · exact pinv_closeServer c _ st h

theorem pinv_reconnect (c : Config) (st : State) (h : PInv c st) : PInv c (reconnect c st).1 := by
  unfold reconnect; split
  · split
    · exact pinv_doLogin c _ (h.same rfl rfl rfl)
    · exact h.same rfl rfl rfl
  · exact pinv_closeServer c _ _ (h.same rfl rfl rfl)

theorem pinv_tickWd (c : Config) (st : State) (h : PInv c st) : PInv c (tickWd c st).1 := by
  unfold tickWd; split
  · exact h
  · split
    · exact h.same rfl rfl rfl
    · exact h
  · split
    · exact pinv_reconnect c st h
    · exact h.same rfl rfl rfl

theorem pinv_doStart (c : Config) (st : State) (h : PInv c st) : PInv c (doStart c st).1 := by
  unfold doStart; simp only []; split
  · exact h.same rfl rfl rfl
  · split
    · exact h.same rfl rfl rfl
    · exact pinv_closeServer c _ _ (h.same rfl rfl rfl)

theorem pinv_doConnect (c : Config) (st : State) (h : PInv c st) : PInv c (doConnect c st).1 := by
  unfold doConnect; split
  · exact h.same rfl rfl rfl
  · exact pinv_closeServer c _ _ (h.same rfl rfl rfl)

theorem session_closeServer (r : Reason) (st : State) (hi : Inv st) : (closeServer r st).1.session = false := by
  unfold closeServer; split
  · rename_i hc
    exact (hi.offline (by rcases hc with hc | hc <;> simp [hc])).2.2
  · rfl

theorem session_applyBreak (c : Config) (b : Break) (st : State) (hi : Inv st) :
    (applyBreak c b st).1.session = false :=
  applyBreak_cases c b st (P := fun r => r.1.session = false) (fun r => session_closeServer r st hi)
    (by rw [doStop_eq]; exact session_closeServer _ _ (inv_wdOff st hi))

theorem pinv_doLoginBreak (c : Config) (pos : Option Nat) (d : Nat) (b : Break) (st : State) (hi : Inv st)
    (hc : st.conn = .connected) : PInv c (doLoginBreak c pos d b st).1 :=
  doLoginBreak_cases c pos d b st (P := fun r => PInv c r.1)
    (pinv_of_no_session c _ (session_applyBreak c b st hi))
    (fun _ => pinv_of_no_session c _ (session_applyBreak c b _ (inv_inBurst st hi hc)))
    (pinv_of_no_session c _ (session_applyBreak c b _ (inv_loginDone c st hi hc)))
    (fun _ _ => congrArg some (position_congr c st _ rfl))

theorem pinv_step (c : Config) (st : State) (op : Op) (hi : Inv st) (h : PInv c st) : PInv c (step c st op).1 :=
  step_cases c st op (P := fun r => PInv c r.1)
    (silent := fun _ _ e ht hp _ => h.same (life_eq e).2.1 ht hp)
    (tell := fun _ _ _ => pinv_tellPosition c _)
    (start := fun _ _ => pinv_doStart c st h)
    (login := fun _ => pinv_doLogin c st h)
    (loginBreak := fun pos d b hg => pinv_doLoginBreak c pos d b st hi hg.1)
    (loss := fun r _ => pinv_closeServer c r st h)
    (lossHeld := fun r _ _ => (pinv_closeServer c r st h).same rfl rfl rfl)
    (connect := fun _ => pinv_doConnect c st h)
    (tick := pinv_tickWd c _ (h.same rfl rfl rfl))
    (stop := fun _ => pinv_of_no_session c _ (session_applyBreak c .stop st hi))

theorem closeServer_keeps_peers (r : Reason) (st : State) :
    (closeServer r st).1.parent = st.parent ∧ (closeServer r st).1.children = st.children ∧
    (closeServer r st).1.stats = st.stats := by
  unfold closeServer; split <;> exact ⟨rfl, rfl, rfl⟩

theorem reconnect_relogin (c : Config) (st : State) (hup : st.srvUp = true) (ha : c.reconnectAuto = true)
    (hr : st.srvReply = .accepted) :
    Obs.frames (burst c (envOf c st)) ∈ (reconnect c st).2 ∧ (reconnect c st).1.session = true ∧
    (reconnect c st).1.parent = st.parent ∧ (reconnect c st).1.told = some (position c st) := by
  simp [reconnect, doLogin, hup, ha, hr, envOf, position]

/-- the invariants of the reachable states together (`reach_run`) -/
structure Reach (c : Config) (st : State) : Prop where
  inv : Inv st
  stop : StopInv st
  wd : WInv c st
  pos : PInv c st

theorem reach_run (c : Config) (ops : List Op) : Reach c (run c init ops).1 :=
  run_induction (P := Reach c)
    (fun st op h => ⟨inv_step c st op h.inv, stopinv_step c st op h.inv h.stop, winv_step c st op h.inv h.wd,
      pinv_step c st op h.inv h.pos⟩)
    ops init ⟨inv_init, (nomatch ·), by simp [WInv, init], (nomatch ·)⟩

end AioslskVerif.Session
