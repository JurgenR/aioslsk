import AioslskVerif.Model.Sched
/-!
What `step` can do is sorted by what it touches (`Effect`, `step_effect`), and what holds of every schedule is proved
by cases on that.  A cycle is read through `markSel_eq`: it sets two flags on selected uploads and nothing else.
-/
namespace AioslskVerif.Sched
open List

theorem forall_of_pairwise {α} {R : α → α → Prop} (hsymm : ∀ a b, R a b → R b a) {l : List α} (h : l.Pairwise R)
    {a b : α} (ha : a ∈ l) (hb : b ∈ l) (hne : a ≠ b) : R a b := by
  have h1 : l.Pairwise (fun a b => a ≠ b → R a b) := h.imp (S := fun a b => a ≠ b → R a b) fun r _ => r
  have h2 : l.Pairwise (fun a b => b ≠ a → R b a) := h.imp (S := fun a b => b ≠ a → R b a) fun r _ => hsymm _ _ r
  exact Pairwise.forall_of_forall_of_flip (fun _ _ hx => absurd rfl hx) h1 h2 ha hb hne

theorem eq_of_pairwise_ne {α β} [DecidableEq α] {f : α → β} {l : List α} (h : l.Pairwise (fun a b => f a ≠ f b))
    {a b : α} (ha : a ∈ l) (hb : b ∈ l) (e : f a = f b) : a = b :=
  Decidable.byContradiction fun hne => forall_of_pairwise (fun _ _ r e => r e.symm) h ha hb hne e

theorem length_filter_add_filter_not {α} (p q : α → Bool) (h : ∀ x, q x = !p x) (l : List α) :
    (l.filter p).length + (l.filter q).length = l.length := by
  rw [length_eq_countP_add_countP p (l := l), countP_eq_length_filter, countP_eq_length_filter]
  congr 2
  exact filter_congr fun x _ => by rw [h]; cases p x <;> rfl

theorem ite_and {α} (p q : Prop) [Decidable p] [Decidable q] (a b : α) :
    (if p ∧ q then a else b) = if p then (if q then a else b) else b := by
  by_cases hp : p
  · simp only [hp, true_and, if_true]
  · simp only [hp, false_and, if_false]

theorem countP_or_disjoint {α} (p q : α → Bool) (l : List α) (h : ∀ x ∈ l, q x = true → p x = false) :
    countP (fun x => p x || q x) l = countP p l + countP q l := by
  induction l with
  | nil => rfl
  | cons a l ih =>
    rw [countP_cons, countP_cons, countP_cons, ih fun x hx => h x (mem_cons_of_mem _ hx)]
    cases hq : q a
    · rw [Bool.or_false, if_neg Bool.false_ne_true]
      omega
    · rw [h a mem_cons_self hq, Bool.or_true, if_pos rfl, if_neg Bool.false_ne_true]
      omega

theorem countP_mem_eq_length {α} [DecidableEq α] {xs sel : List α} (hx : xs.Nodup) (hs : sel.Nodup)
    (hsub : ∀ x ∈ sel, x ∈ xs) : countP (fun x => decide (x ∈ sel)) xs = sel.length := by
  rw [countP_eq_length_filter]
  apply Perm.length_eq
  rw [perm_ext_iff_of_nodup (hx.filter _) hs]
  intro a
  simp only [mem_filter, decide_eq_true_eq]
  exact ⟨fun h => h.2, fun h => ⟨hsub a h, h⟩⟩

theorem countP_update {α} (p : α → Bool) {g : α → α} {xs : List α} (hn : xs.Nodup) {x : α} (hx : x ∈ xs)
    (hg : ∀ y ∈ xs, y ≠ x → g y = y) :
    countP p (xs.map g) + (if p x then 1 else 0) = countP p xs + (if p (g x) then 1 else 0) := by
  obtain ⟨l, r, rfl⟩ := append_of_mem hx
  have hn' := nodup_append.mp hn
  have hl : l.map g = l :=
    (map_congr_left fun y hy => hg y (mem_append_left _ hy) (hn'.2.2 y hy x mem_cons_self)).trans (map_id _)
  have hr : r.map g = r :=
    (map_congr_left fun y hy => hg y (mem_append_right _ (mem_cons_of_mem _ hy))
      fun e => (nodup_cons.mp hn'.2.1).1 (e ▸ hy)).trans (map_id _)
  rw [map_append, map_cons, hl, hr, countP_append, countP_append, countP_cons, countP_cons]
  omega

theorem optw_lt {w : Nat} (hw : 0 < w) (a b : Bool) :
    (if a then w else 0) < (if b then w else 0) ↔ a = false ∧ b = true := by
  cases a <;> cases b <;> simp [hw]

theorem optw_eq {w : Nat} (hw : 0 < w) (a b : Bool) : (if a then w else 0) = (if b then w else 0) ↔ a = b := by
  -- the two mixed cases are `0 = w` and `w = 0`
  cases a <;> cases b <;> simp [Nat.ne_of_gt hw, Nat.ne_of_lt hw]

theorem optw_cases (w : Nat) (a : Bool) : (if a then w else 0) = 0 ∨ (if a then w else 0) = w := by
  cases a
  · exact .inl rfl
  · exact .inr rfl

theorem optw_le (w : Nat) (a : Bool) : (if a then w else 0) ≤ w := by
  have := optw_cases w a
  omega

theorem lex_add {a a' b b' W : Nat} (ha : a < W) (ha' : a' < W) (hb : b = 0 ∨ b = W) (hb' : b' = 0 ∨ b' = W) :
    a + b < a' + b' ↔ b < b' ∨ (b = b' ∧ a < a') := by omega

section
variable {users : Nat → UserInfo} {busy : List Nat}

/-- one round of the loop: the five tests of manager.py:651-664 as one condition -/
theorem eligLoop_cons (seen : List Nat) (x : Xfer) (r : List Xfer) :
    eligLoop users busy seen (x :: r) =
      if (users x.user).status ≠ .offline ∧ x.dir = .upload ∧ x.user ∉ busy ∧ x.user ∉ seen ∧ x.st = .queued
      then x :: eligLoop users busy (x.user :: seen) r else eligLoop users busy seen r := by
  rw [eligLoop]
  simp only [ne_eq, ite_and, ite_not]

theorem mem_eligLoop {t : Xfer} {xs : List Xfer} {seen : List Nat} (h : t ∈ eligLoop users busy seen xs) : t ∈ xs ∧
    (users t.user).status ≠ .offline ∧ t.dir = .upload ∧ t.user ∉ busy ∧ t.user ∉ seen ∧ t.st = .queued := by
  induction xs generalizing seen with
  | nil => nomatch h
  | cons x r ih =>
    rw [eligLoop_cons] at h
    split at h
    · rcases mem_cons.mp h with rfl | h'
      · exact ⟨mem_cons_self, ‹_›⟩
      · have ⟨h1, h2, h3, h4, h5, h6⟩ := ih h'
        exact ⟨mem_cons_of_mem _ h1, h2, h3, h4, fun hs => h5 (mem_cons_of_mem _ hs), h6⟩
    · have ⟨h1, h2⟩ := ih h
      exact ⟨mem_cons_of_mem _ h1, h2⟩

theorem eligLoop_nodup_users (xs : List Xfer) (seen : List Nat) :
    ((eligLoop users busy seen xs).map (·.user)).Nodup := by
  induction xs generalizing seen with
  | nil => exact nodup_nil
  | cons x r ih =>
    rw [eligLoop_cons]
    split
    · rw [map_cons, nodup_cons]
      refine ⟨fun hm => ?_, ih _⟩
      obtain ⟨t, ht, hu⟩ := mem_map.mp hm
      exact (mem_eligLoop ht).2.2.2.2.1 (hu ▸ mem_cons_self)
    · exact ih seen

theorem eligLoop_complete {x : Xfer} (hup : x.dir = .upload) (hq : x.st = .queued)
    (hoff : (users x.user).status ≠ .offline) (hbusy : x.user ∉ busy) {xs : List Xfer} {seen : List Nat}
    (hx : x ∈ xs) (hseen : x.user ∉ seen) : ∃ y ∈ eligLoop users busy seen xs, y.user = x.user := by
  induction xs generalizing seen with
  | nil => nomatch hx
  | cons h r ih =>
    rw [eligLoop_cons]
    split
    · by_cases hu : h.user = x.user
      · exact ⟨h, mem_cons_self, hu⟩
      · have hx' : x ∈ r := (mem_cons.mp hx).resolve_left fun e => hu (e ▸ rfl)
        have ⟨y, hy, hyu⟩ := ih hx' fun hc => (mem_cons.mp hc).elim (fun e => hu e.symm) hseen
        exact ⟨y, mem_cons_of_mem _ hy, hyu⟩
    · next hc =>
      exact ih ((mem_cons.mp hx).resolve_left fun e => hc (e ▸ ⟨hoff, hup, hbusy, hseen, hq⟩)) hseen

theorem eligLoop_map (g : Xfer → Xfer) (hu : ∀ x, (g x).user = x.user) (hd : ∀ x, (g x).dir = x.dir)
    (hs : ∀ x, (g x).st = x.st) (xs : List Xfer) (seen : List Nat) :
    eligLoop users busy seen (xs.map g) = (eligLoop users busy seen xs).map g := by
  induction xs generalizing seen with
  | nil => rfl
  | cons x r ih =>
    rw [map_cons, eligLoop_cons, eligLoop_cons, hu, hd, hs, ih, ih]
    split <;> rfl

end

section
variable (key : Xfer → Nat)

theorem insAsc_perm (a : Xfer) : ∀ l, insAsc key a l ~ a :: l
  | [] => Perm.refl _
  | b :: l => by
    unfold insAsc
    split
    · exact Perm.refl _
    · exact ((insAsc_perm a l).cons b).trans (Perm.swap a b l)

theorem sortAsc_perm : ∀ l, sortAsc key l ~ l
  | [] => Perm.refl _
  | a :: l => (insAsc_perm key a _).trans ((sortAsc_perm l).cons a)

theorem insAsc_sorted (a : Xfer) (l : List Xfer) (h : l.Pairwise (fun x y => key x ≤ key y)) :
    (insAsc key a l).Pairwise (fun x y => key x ≤ key y) := by
  induction l with
  | nil => exact pairwise_singleton _ _
  | cons b l ih =>
    unfold insAsc
    rw [pairwise_cons] at h
    split
    · next hab =>
      exact pairwise_cons.mpr ⟨fun x hx => (mem_cons.mp hx).elim (· ▸ hab) fun hx => Nat.le_trans hab (h.1 x hx),
        pairwise_cons.mpr h⟩
    · next hab =>
      refine pairwise_cons.mpr ⟨fun x hx => ?_, ih h.2⟩
      rcases mem_cons.mp ((insAsc_perm key a l).mem_iff.mp hx) with rfl | hx'
      · exact Nat.le_of_not_ge hab
      · exact h.1 x hx'

theorem sortAsc_sorted : ∀ l, (sortAsc key l).Pairwise (fun x y => key x ≤ key y)
  | [] => Pairwise.nil
  | a :: l => insAsc_sorted key a _ (sortAsc_sorted l)

end

theorem prioritize_perm (s : Sched) (l : List Xfer) : s.prioritize l ~ l :=
  (reverse_perm _).trans (sortAsc_perm _ l)

theorem prioritize_sorted (s : Sched) (l : List Xfer) :
    (s.prioritize l).Pairwise (fun a b => s.rankOf b ≤ s.rankOf a) :=
  pairwise_reverse.mpr (sortAsc_sorted _ l)

theorem eligible_perm (s : Sched) : s.eligible ~ s.candidates := prioritize_perm s _

theorem select_length_le (s : Sched) : s.select.length ≤ s.freeSlots :=
  length_take ▸ Nat.min_le_left _ _

theorem select_nodup_users (s : Sched) : (s.select.map (·.user)).Nodup :=
  (((take_sublist _ _).map _).nodup (((eligible_perm s).map _).nodup_iff.mpr (eligLoop_nodup_users _ _)))

theorem select_nodup (s : Sched) : s.select.Nodup :=
  Pairwise.of_map _ (fun _ _ h e => h (congrArg _ e)) (select_nodup_users s)

theorem select_user_inj {s : Sched} {a b : Xfer} (ha : a ∈ s.select) (hb : b ∈ s.select) (e : a.user = b.user) :
    a = b :=
  eq_of_pairwise_ne (pairwise_map.mp (select_nodup_users s)) ha hb e

theorem select_spec {s : Sched} {t : Xfer} (h : t ∈ s.select) :
    t ∈ s.xs ∧ t.dir = .upload ∧ t.st = .queued ∧ (s.users t.user).status ≠ .offline ∧
      ∀ x ∈ s.xs, x.procUpload = true → x.user ≠ t.user := by
  have ⟨h1, h2, h3, h4, _, h6⟩ := mem_eligLoop ((eligible_perm s).mem_iff.mp (mem_of_mem_take h))
  exact ⟨h1, h3, h6, h2, fun x hx hp e => h4 (e ▸ mem_map.mpr ⟨x, mem_filter.mpr ⟨hx, hp⟩, rfl⟩)⟩

theorem not_proc_of_queued {x : Xfer} (h : x.st = .queued) : x.procUpload = false := by
  simp [Xfer.procUpload, Xfer.processing, h]

theorem not_held_of_queued {x : Xfer} (h : x.st = .queued) (hi : x.inflight = false) : x.held = false := by
  simp [Xfer.held, not_proc_of_queued h, hi]

theorem held_of_proc {x : Xfer} (h : x.procUpload = true) : x.held = true := by
  simp [Xfer.held, h]

theorem noInflight_spec {s : Sched} (h : s.noInflight = true) {x : Xfer} (hx : x ∈ s.xs) : x.inflight = false := by
  simpa using all_eq_true.mp h x hx

theorem heldCount_of_noInflight {s : Sched} (hn : s.noInflight = true) : s.heldCount = s.procUploads :=
  countP_congr fun x hx => by simp [Xfer.held, noInflight_spec hn hx]

theorem noInflight_of_timely {s : Sched} (hp : s.cyclePending = true) (ht : timelyOp s .cycle = true) :
    s.noInflight = true := by
  simpa [timelyOp, hp] using ht

theorem start_xs (s : Sched) : s.start.xs = s.xs.map (markSel s.select) := rfl

/-- the selected uploads that `markSel` gives a task: those without a lingering one. `markSel` does not look at
`inflight` (marking an upload that is in flight already changes nothing), so this is the model's `Sched.started`
only in a state where nothing is in flight (`noInflight`), which is where the lemmas about `start` use it. -/
def taskSel (sel : List Xfer) : List Xfer := sel.filter (fun x => !x.lingering)

/-- the selected uploads with a lingering task -/
def lingerSel (sel : List Xfer) : List Xfer := sel.filter (fun x => x.lingering)

theorem mem_taskSel {sel : List Xfer} {x : Xfer} : x ∈ taskSel sel ↔ x ∈ sel ∧ x.lingering = false := by
  simp [taskSel]

theorem mem_lingerSel {sel : List Xfer} {x : Xfer} : x ∈ lingerSel sel ↔ x ∈ sel ∧ x.lingering = true := by
  simp [lingerSel]

theorem taskSel_add_lingerSel (sel : List Xfer) : (taskSel sel).length + (lingerSel sel).length = sel.length :=
  (Nat.add_comm ..).trans (length_filter_add_filter_not (fun x : Xfer => x.lingering) _ (fun _ => rfl) sel)

theorem markSel_eq (sel : List Xfer) (x : Xfer) : markSel sel x =
    { x with inflight := x.inflight || decide (x ∈ taskSel sel), watched := x.watched || decide (x ∈ lingerSel sel) } := by
  unfold markSel
  by_cases h : x ∈ sel
  · cases hl : x.lingering <;> simp [h, hl, mem_taskSel, mem_lingerSel]
  · simp only [h, if_false, mem_taskSel, mem_lingerSel, false_and, decide_false, Bool.or_false]

theorem markSel_user (sel : List Xfer) (x : Xfer) : (markSel sel x).user = x.user := by rw [markSel_eq]
theorem markSel_id (sel : List Xfer) (x : Xfer) : (markSel sel x).id = x.id := by rw [markSel_eq]
theorem markSel_dir (sel : List Xfer) (x : Xfer) : (markSel sel x).dir = x.dir := by rw [markSel_eq]
theorem markSel_st (sel : List Xfer) (x : Xfer) : (markSel sel x).st = x.st := by rw [markSel_eq]
theorem markSel_proc (sel : List Xfer) (x : Xfer) : (markSel sel x).procUpload = x.procUpload := by
  rw [markSel_eq]; rfl
theorem markSel_inflight (sel : List Xfer) (x : Xfer) :
    (markSel sel x).inflight = (x.inflight || decide (x ∈ taskSel sel)) := by rw [markSel_eq]
theorem markSel_watched (sel : List Xfer) (x : Xfer) :
    (markSel sel x).watched = (x.watched || decide (x ∈ lingerSel sel)) := by rw [markSel_eq]

theorem markSel_held (sel : List Xfer) (x : Xfer) :
    (markSel sel x).held = (x.held || decide (x ∈ taskSel sel)) := by
  rw [markSel_eq]
  exact (Bool.or_assoc ..).symm

theorem markSel_marks {sel : List Xfer} {x : Xfer} (h : x ∈ sel) :
    (markSel sel x).inflight = true ∨ (markSel sel x).watched = true := by
  rw [markSel, if_pos h]
  split
  · exact .inr rfl
  · exact .inl rfl

theorem candidates_start (s : Sched) : s.start.candidates = s.candidates.map (markSel s.select) := by
  have hb : s.start.busyUsers = s.busyUsers := by
    unfold Sched.busyUsers
    rw [start_xs, filter_map, map_map]
    have : (Xfer.procUpload ∘ markSel s.select) = Xfer.procUpload := funext (markSel_proc _)
    rw [this]
    exact map_congr_left fun x _ => markSel_user _ x
  unfold Sched.candidates
  rw [hb, start_xs]
  exact eligLoop_map _ (markSel_user _) (markSel_dir _) (markSel_st _) _ _

theorem mem_eligible_start {s : Sched} {y : Xfer} (hy : y ∈ s.start.eligible) :
    ∃ x ∈ s.eligible, y = markSel s.select x := by
  rw [(eligible_perm _).mem_iff, candidates_start] at hy
  obtain ⟨x, hx, rfl⟩ := mem_map.mp hy
  exact ⟨x, (eligible_perm s).mem_iff.mpr hx, rfl⟩

/-- `y` may take the place of `x` in the transfer list: no slot is taken, and if `y` is between decision and
record then so was `x`, and `y` is a QUEUED upload if `x` was -/
structure Quiet (x y : Xfer) : Prop where
  held : y.held = true → x.held = true
  infl : y.inflight = true → x.inflight = true ∧ y.dir = x.dir ∧ (x.st = .queued → y.st = .queued)

theorem Quiet.refl (x : Xfer) : Quiet x x := ⟨id, fun h => ⟨h, rfl, id⟩⟩

/-- a message of the server about users: the only ops that change what is known of a user, `store` and the
specification `ref` alike (`Effect.told`) -/
inductive FromServer : Op → Prop
  | report (u st p) : FromServer (.report u st p)
  | reply (u st) : FromServer (.reply u st)
  | privList (l) : FromServer (.privList l)

/-- Everything `step` can do, by what it touches: nothing (the op is refused); a served cycle; a new QUEUED
transfer at the end of the list; one transfer, found by its id, replaced quietly (`p`: a cycle is requested whenever
its state changes); the slot setting; the friend list; what is known about users — `store` and `ref` alike, and
never who is known. `cycle` and `slots` name their op and `told` restricts it (`FromServer`), the other shapes
take any op: `Effect.slots_eq`, `Effect.store_isSome` and `Effect.ref_eq` exclude a shape by excluding its ops. -/
inductive Effect (s : Sched) : Op → Sched → Prop
  | refused (op : Op) : Effect s op s
  | cycle : s.cyclePending = true → Effect s .cycle s.track.start
  | add (op : Op) (u : Nat) (d : Dir) :
      Effect s op { s with xs := s.xs ++ [{ id := s.xs.length, user := u, dir := d, st := .queued }], cyclePending := true }
  | update (op : Op) {k : Nat} {x : Xfer} (f : Xfer → Xfer) (p : Bool) : s.get? k = some x →
      (∀ y, (f y).id = y.id ∧ (f y).user = y.user) → Quiet x (f x) →
      (∀ y ∈ s.xs, y.id = k → (f y).st ≠ y.st → p = true) →
      Effect s op { s with xs := s.xs.map (fun y => if y.id = k then f y else y), cyclePending := p }
  | slots (n : Nat) : Effect s (.setSlots n) { s with slots := n }
  | friends (op : Op) (fr : Nat → Bool) : Effect s op { s with friends := fr }
  | told (op : Op) (F : (Nat → Option Known) → Nat → Option Known) (ps : Nat → Bool) (p : Bool) : FromServer op →
      (∀ f v, (F f v).isSome = (f v).isSome) →
      Effect s op { s with store := F s.store, ref := F s.ref, privSet := ps, cyclePending := p }

theorem get?_spec {s : Sched} {k : Nat} {x : Xfer} (h : s.get? k = some x) : x ∈ s.xs ∧ x.id = k :=
  ⟨mem_of_find?_eq_some h, by simpa using find?_some h⟩

theorem step_xfer {op : Op} {k : Nat} (hk : op.xfer? = some k) (s : Sched) :
    step s op = match s.get? k with
      | some x => match target x op with
        | some st => s.setSt k st
        | none => s
      | none => s := by
  cases op <;> cases hk <;> rfl

theorem record_spec {s : Sched} {k : Nat} (ha : s.accepts (.record k) = true) :
    ∃ x, s.get? k = some x ∧ x.dir = .upload ∧ x.st = .queued ∧ x.inflight = true ∧
      step s (.record k) = s.setSt k .initializing := by
  have hs : step s (.record k) = _ := step_xfer rfl s
  simp only [Sched.accepts, Op.xfer?] at ha
  cases hg : s.get? k with
  | none => simp [hg] at ha
  | some x =>
    rw [hg] at ha hs
    simp only [target] at ha hs
    by_cases hc : x.dir = .upload ∧ x.st = .queued ∧ x.inflight = true
    · rw [if_pos hc] at hs
      exact ⟨x, rfl, hc.1, hc.2.1, hc.2.2, hs⟩
    · rw [if_neg hc] at ha
      cases ha

theorem withSt_st (x : Xfer) (st : St) : (x.withSt st).st = st := rfl
theorem withSt_inflight (x : Xfer) (st : St) : (x.withSt st).inflight = false := rfl
theorem withSt_id (x : Xfer) (st : St) : (x.withSt st).id = x.id := rfl
theorem withSt_user (x : Xfer) (st : St) : (x.withSt st).user = x.user := rfl
theorem withSt_dir (x : Xfer) (st : St) : (x.withSt st).dir = x.dir := rfl

theorem withSt_held (x : Xfer) (st : St) :
    (x.withSt st).held = (x.dir == .upload && (st == .initializing || st == .uploading || st == .downloading)) :=
  Bool.or_false _

/-- a per-transfer op makes an upload active only from an active state (`started`) or from the decision of a
cycle (`record`): no per-transfer op takes a slot -/
theorem target_held {x : Xfer} {op : Op} {st : St} (h : target x op = some st) :
    (x.withSt st).held = true → x.held = true := by
  rw [withSt_held]
  cases op with
  | record k =>
    simp only [target] at h
    split at h
    · next hc => exact fun _ => by rw [Xfer.held, hc.2.2, Bool.or_true]
    · cases h
  | started k =>
    simp only [target] at h
    split at h
    · next hc => exact fun _ => by simp [Xfer.held, Xfer.procUpload, Xfer.processing, hc.1, hc.2]
    · cases h
  | finish k | failX k | backToQueue k | requeue k | apiQueue k | abort k =>
    simp only [target] at h
    split at h
    · cases h; exact fun hh => nomatch (Bool.and_eq_true_iff.mp hh).2
    · cases h
  | _ => cases h

/-- a per-transfer op makes an upload INITIALIZING or UPLOADING only out of one that holds a slot already
(`target_held`: such an upload is held) -/
theorem target_proc {x : Xfer} {op : Op} {st : St} (h : target x op = some st) :
    (x.withSt st).procUpload = true → x.held = true :=
  fun hp => target_held h (held_of_proc hp)

theorem afterNotice_proc (x : Xfer) (d : Bool) : (x.afterNotice d).procUpload = x.procUpload := by
  unfold Xfer.afterNotice Xfer.procUpload Xfer.processing
  split
  · next h =>
    have hf : x.st = .failed := by simpa using (Bool.and_eq_true_iff.mp h).2
    rw [hf]
    rfl
  · rfl

theorem updKnown_isSome (f : Nat → Option Known) (u : Nat) (g : Known → Known) (v : Nat) :
    (updKnown f u g v).isSome = (f v).isSome := by
  unfold updKnown
  split
  · exact Option.isSome_map
  · rfl

theorem step_xfer_effect {op : Op} {k : Nat} (hk : op.xfer? = some k) (s : Sched) : Effect s op (step s op) := by
  rw [step_xfer hk]
  split
  · next x hg =>
    split
    · next st ht =>
      exact .update _ (fun y => y.withSt st) true hg (fun _ => ⟨rfl, rfl⟩) ⟨target_held ht, fun h => nomatch h⟩
        (fun _ _ _ _ => rfl)
    · exact .refused _
  · exact .refused _

theorem step_effect (s : Sched) (op : Op) : Effect s op (step s op) := by
  cases op with
  | addUpload u => exact .add _ u .upload
  | addDownload u => exact .add _ u .download
  | cycle =>
    show Effect s _ (if s.cyclePending then s.cycle else s)
    split
    · exact .cycle ‹_›
    · exact .refused _
  | breakX k =>
    show Effect s _ (if s.accepts (.breakX k) then s.breakSt k else s)
    split
    · obtain ⟨x, hg, _⟩ := (Option.any_eq_true _ _).mp ‹s.accepts (.breakX k) = true›
      exact .update _ (fun y => { y with st := .failed, inflight := false, lingering := true }) true hg
        (fun _ => ⟨rfl, rfl⟩) ⟨by simp [Xfer.held, Xfer.procUpload, Xfer.processing], by simp⟩ (fun _ _ _ _ => rfl)
    · exact .refused _
  | noticeEnd k d =>
    show Effect s _ (if s.accepts (.noticeEnd k d) then s.endNotice k d else s)
    split
    · obtain ⟨x, hg, _⟩ := (Option.any_eq_true _ _).mp ‹s.accepts (.noticeEnd k d) = true›
      refine .update _ (fun y => y.afterNotice d) _ hg (fun _ => ⟨rfl, rfl⟩)
        ⟨by unfold Xfer.held; rw [afterNotice_proc]; exact id, fun h => ⟨h, rfl, fun hq => ?_⟩⟩ ?_
      · simp [Xfer.afterNotice, hq]
      · intro y hy hk hne
        have : (!d && y.st == .failed) = true := Decidable.byContradiction fun hc => hne (if_neg hc)
        exact Bool.or_eq_true_iff.mpr (.inr (any_eq_true.mpr ⟨y, hy, by simp [hk, this]⟩))
    · exact .refused _
  | setSlots n => exact .slots n
  | friend u b => exact .friends _ _
  | report u st p =>
    exact .told _ (fun f => updKnown f u _) s.privSet true (.report ..) (fun f => updKnown_isSome f u _)
  | reply u st =>
    cases st with
    | none => exact .told _ (fun f => f) s.privSet true (.reply ..) (fun _ _ => rfl)
    | some st => exact .told _ (fun f => updKnown f u _) s.privSet true (.reply ..) (fun f => updKnown_isSome f u _)
  | privList l =>
    exact .told _ (fun f v => (f v).map fun k => { k with privileged := l.contains v }) (fun v => l.contains v)
      s.cyclePending (.privList l) (fun _ _ => Option.isSome_map)
  | record k | started k | finish k | failX k | backToQueue k | requeue k | apiQueue k | abort k =>
    exact step_xfer_effect rfl s

/-- the invariant of the transfer list (`TransferManager._transfers`); an id is the list length when it is added -/
structure InvL (xs : List Xfer) : Prop where
  ids : xs.Pairwise (fun a b => a.id < b.id)
  bound : ∀ x ∈ xs, x.id < xs.length
  /-- no user holds two slots (active uploads and chosen ones alike) -/
  one : xs.Pairwise (fun a b => a.held = true → b.held = true → a.user ≠ b.user)
  /-- only a QUEUED upload is between decision and record -/
  infl : ∀ x ∈ xs, x.inflight = true → x.dir = .upload ∧ x.st = .queued

def Inv (s : Sched) : Prop := InvL s.xs

theorem InvL.unique_id {xs : List Xfer} (h : InvL xs) {x y : Xfer} (hx : x ∈ xs) (hy : y ∈ xs) (e : x.id = y.id) :
    x = y :=
  eq_of_pairwise_ne (h.ids.imp Nat.ne_of_lt) hx hy e

theorem InvL.nodup {xs : List Xfer} (h : InvL xs) : xs.Nodup :=
  h.ids.imp (S := (· ≠ ·)) fun hab e => Nat.lt_irrefl _ (e ▸ hab)

theorem get?_of_mem {s : Sched} (h : Inv s) {x : Xfer} (hx : x ∈ s.xs) : s.get? x.id = some x := by
  cases hg : s.get? x.id with
  | none => exact absurd (decide_eq_true rfl) (find?_eq_none.mp hg x hx)
  | some y => rw [h.unique_id (get?_spec hg).1 hx (get?_spec hg).2]

theorem InvL.map {xs : List Xfer} (h : InvL xs) (g : Xfer → Xfer) (hid : ∀ x, (g x).id = x.id)
    (hone : xs.Pairwise (fun a b => (g a).held = true → (g b).held = true → (g a).user ≠ (g b).user))
    (hq : ∀ x ∈ xs, (g x).inflight = true → (g x).dir = .upload ∧ (g x).st = .queued) : InvL (xs.map g) :=
  ⟨pairwise_map.mpr (h.ids.imp fun hab => by rw [hid, hid]; exact hab),
   forall_mem_map.mpr fun x hx => by rw [hid, length_map]; exact h.bound x hx,
   pairwise_map.mpr hone, forall_mem_map.mpr hq⟩

theorem InvL.map_quiet {xs : List Xfer} (h : InvL xs) (g : Xfer → Xfer)
    (hg : ∀ x, (g x).id = x.id ∧ (g x).user = x.user) (hq : ∀ x ∈ xs, Quiet x (g x)) : InvL (xs.map g) := by
  refine h.map g (fun x => (hg x).1) (h.one.imp_of_mem fun ha hb hab pa pb => ?_) fun x hx hi => ?_
  · rw [(hg _).2, (hg _).2]
    exact hab ((hq _ ha).held pa) ((hq _ hb).held pb)
  · have ⟨hi', hd, hs⟩ := (hq x hx).infl hi
    have ⟨hu, hq'⟩ := h.infl x hx hi'
    exact ⟨hd ▸ hu, hs hq'⟩

theorem update_id_user {f : Xfer → Xfer} (hf : ∀ y, (f y).id = y.id ∧ (f y).user = y.user) (k : Nat) (y : Xfer) :
    (if y.id = k then f y else y).id = y.id ∧ (if y.id = k then f y else y).user = y.user := by
  split
  · exact hf y
  · exact ⟨rfl, rfl⟩

theorem quiet_update {s : Sched} (h : Inv s) {k : Nat} {x : Xfer} (hg : s.get? k = some x) {f : Xfer → Xfer}
    (hq : Quiet x (f x)) : ∀ y ∈ s.xs, Quiet y (if y.id = k then f y else y) := by
  intro y hy
  split
  · next e =>
    rw [h.unique_id hy (get?_spec hg).1 (e.trans (get?_spec hg).2.symm)]
    exact hq
  · exact Quiet.refl y

theorem InvL.append_idle {xs : List Xfer} (h : InvL xs) (x : Xfer) (hid : x.id = xs.length)
    (hp : x.held = false) : InvL (xs ++ [x]) := by
  refine ⟨pairwise_append.mpr ⟨h.ids, pairwise_singleton _ _, fun a ha b hb => ?_⟩, fun y hy => ?_,
    pairwise_append.mpr ⟨h.one, pairwise_singleton _ _, fun a _ b hb _ pb => ?_⟩, fun y hy hyi => ?_⟩
  · rw [mem_singleton.mp hb, hid]
    exact h.bound a ha
  · rw [length_append, length_singleton]
    rcases mem_append.mp hy with hy | hy
    · exact Nat.lt_succ_of_lt (h.bound y hy)
    · rw [mem_singleton.mp hy, hid]
      exact Nat.lt_succ_self _
  · rw [mem_singleton.mp hb, hp] at pb
    cases pb
  · rcases mem_append.mp hy with hy | hy
    · exact h.infl y hy hyi
    · rw [mem_singleton.mp hy, (Bool.or_eq_false_iff.mp hp).2] at hyi
      cases hyi

theorem inv_start {s : Sched} (h : Inv s) (hn : s.noInflight = true) : Inv s.start := by
  refine InvL.map h _ (markSel_id _) ((h.ids.and h.one).imp_of_mem fun {a b} ha hb hab pa pb => ?_) fun x hx hi => ?_
  · rw [markSel_user, markSel_user]
    rw [markSel_held] at pa pb
    -- a held upload is either newly chosen (selected, so its user has nothing active) or was active before
    have old : ∀ {c : Xfer}, c ∈ s.xs → c ∉ taskSel s.select → (c.held || decide (c ∈ taskSel s.select)) = true →
        c.procUpload = true := fun hc hs p => by simpa [hs, Xfer.held, noInflight_spec hn hc] using p
    by_cases sa : a ∈ taskSel s.select <;> by_cases sb : b ∈ taskSel s.select
    · intro e
      exact Nat.lt_irrefl _ (select_user_inj (mem_taskSel.mp sa).1 (mem_taskSel.mp sb).1 e ▸ hab.1)
    · exact fun e => (select_spec (mem_taskSel.mp sa).1).2.2.2.2 b hb (old hb sb pb) e.symm
    · exact (select_spec (mem_taskSel.mp sb).1).2.2.2.2 a ha (old ha sa pa)
    · exact hab.2 (held_of_proc (old ha sa pa)) (held_of_proc (old hb sb pb))
  · rw [markSel_dir, markSel_st]
    rw [markSel_inflight, noInflight_spec hn hx, Bool.false_or, decide_eq_true_eq] at hi
    have hs := select_spec (mem_taskSel.mp hi).1
    exact ⟨hs.2.1, hs.2.2.1⟩

theorem inv_init (n : Nat) : Inv { slots := n } :=
  ⟨Pairwise.nil, fun _ h => (nomatch h), Pairwise.nil, fun _ h => (nomatch h)⟩

theorem heldCount_start {s : Sched} (h : Inv s) (hn : s.noInflight = true) :
    s.start.heldCount = s.heldCount + (taskSel s.select).length := by
  have hsel : ∀ x ∈ taskSel s.select, x ∈ s.xs ∧ x.held = false := fun x hx =>
    have hs := select_spec (mem_taskSel.mp hx).1
    ⟨hs.1, not_held_of_queued hs.2.2.1 (noInflight_spec hn hs.1)⟩
  -- the new tasks, counted as the transfers of the list that are in `taskSel` …
  have hnew : countP (fun x => decide (x ∈ taskSel s.select)) s.xs = (taskSel s.select).length :=
    countP_mem_eq_length h.nodup ((select_nodup s).filter _) fun x hx => (hsel x hx).1
  -- … are disjoint from the held ones, and `markSel` makes held exactly the two together (`markSel_held`)
  unfold Sched.heldCount
  rw [start_xs, countP_map, ← hnew, ← countP_or_disjoint _ _ _ fun x _ hx => (hsel x (of_decide_eq_true hx)).2]
  exact countP_congr fun x _ => by rw [Function.comp, markSel_held]

theorem watchedCount_start_ge {s : Sched} (h : Inv s) : (lingerSel s.select).length ≤ s.start.watchedCount := by
  rw [Sched.watchedCount, start_xs, countP_map, ← countP_mem_eq_length (sel := lingerSel s.select) h.nodup
    ((select_nodup s).filter _) fun x hx => (select_spec (mem_lingerSel.mp hx).1).1]
  exact countP_mono_left fun x _ hx => by rw [Function.comp, markSel_watched, hx, Bool.or_true]

theorem track_store (s : Sched) (u : Nat) : s.track.store u =
    if s.unfinishedUser u then some ((s.store u).getD (s.fresh u)) else if s.finishedUser u then none else s.store u := by
  show (if s.unfinishedUser u then (match s.store u with | some k => some k | none => some (s.fresh u)) else _) = _
  cases s.store u <;> rfl

theorem track_ref (s : Sched) (u : Nat) :
    s.track.ref u = if s.unfinishedUser u then some ((s.ref u).getD (s.fresh u)) else none := by
  show (if s.unfinishedUser u then (match s.ref u with | some k => some k | none => some (s.fresh u)) else _) = _
  cases s.ref u <;> rfl

theorem unfinishedUser_of_mem {s : Sched} {x : Xfer} (hx : x ∈ s.xs) (hf : x.finalized = false) :
    s.unfinishedUser x.user = true :=
  any_eq_true.mpr ⟨x, hx, by simp [hf]⟩

/-- `idle`: nobody without a transfer is held.  It is what makes the branch of `track` that leaves `store` alone agree
with `ref`, which forgets. -/
structure TrackInv (s : Sched) : Prop where
  same : s.store = s.ref
  idle : ∀ u, (s.store u).isSome = true → ∃ x ∈ s.xs, x.user = u

theorem trackInv_init (n : Nat) : TrackInv { slots := n } := ⟨rfl, fun _ h => nomatch h⟩

/-- with nobody held idly `track` leaves the store as it leaves `ref` (`track_ref`) -/
theorem TrackInv.track_store_as_ref {s : Sched} (h : TrackInv s) (u : Nat) :
    s.track.store u = if s.unfinishedUser u then some ((s.store u).getD (s.fresh u)) else none := by
  rw [Sched.track_store]
  split
  · rfl
  · split
    · rfl
    · next hu hf =>
      -- neither unfinished nor finished: no transfer at all, so nothing is held
      refine Option.not_isSome_iff_eq_none.mp fun hs => ?_
      obtain ⟨x, hx, rfl⟩ := h.idle u hs
      cases hfin : x.finalized
      · exact hu (unfinishedUser_of_mem hx hfin)
      · exact hf (any_eq_true.mpr ⟨x, hx, by simp [hfin]⟩)

theorem trackInv_track {s : Sched} (h : TrackInv s) : TrackInv s.track := by
  refine ⟨funext fun u => by rw [h.track_store_as_ref, track_ref, h.same], fun u hu => ?_⟩
  rw [h.track_store_as_ref] at hu
  split at hu
  · obtain ⟨x, hx, hxu⟩ := any_eq_true.mp ‹s.unfinishedUser u = true›
    exact ⟨x, hx, eq_of_beq (Bool.and_eq_true_iff.mp hxu).1⟩
  · cases hu

theorem TrackInv.of_xs {s : Sched} (h : TrackInv s) (xs : List Xfer) (p : Bool)
    (hx : ∀ x ∈ s.xs, ∃ y ∈ xs, y.user = x.user) : TrackInv { s with xs := xs, cyclePending := p } :=
  ⟨h.same, fun u hu => have ⟨x, hx', e⟩ := h.idle u hu; e ▸ hx x hx'⟩

theorem TrackInv.map {s : Sched} (h : TrackInv s) (g : Xfer → Xfer) (p : Bool) (hg : ∀ x ∈ s.xs, (g x).user = x.user) :
    TrackInv { s with xs := s.xs.map g, cyclePending := p } :=
  h.of_xs _ p fun x hx => ⟨g x, mem_map_of_mem hx, hg x hx⟩

section
variable {s s' : Sched} {op : Op}

theorem Effect.slots_eq (e : Effect s op s') (hc : ∀ m, op ≠ .setSlots m) :
    s'.slots = s.slots := by
  cases e with
  | slots n => exact absurd rfl (hc n)
  | _ => rfl

theorem Effect.store_isSome (e : Effect s op s') (hc : op ≠ .cycle) (u : Nat) :
    (s'.store u).isSome = (s.store u).isSome := by
  cases e with
  | cycle => exact absurd rfl hc
  | told _ _ _ _ _ hF => exact hF _ u
  | _ => rfl

theorem Effect.ref_eq (e : Effect s op s') (hc : op ≠ .cycle) (hs : ¬ FromServer op) :
    s'.ref = s.ref := by
  cases e with
  | cycle => exact absurd rfl hc
  | told _ _ _ _ h => exact absurd h hs
  | _ => rfl

theorem Effect.requests_cycle (e : Effect s op s')
    (hne : s'.xs.map (·.st) ≠ s.xs.map (·.st)) : s'.cyclePending = true := by
  cases e with
  | refused | slots | friends | told => exact absurd rfl hne
  | cycle => exact absurd (by rw [start_xs, map_map]; exact map_congr_left fun x _ => markSel_st _ x) hne
  | add => rfl
  | update _ f p _ _ _ hp =>
    refine Decidable.byContradiction fun hc => hne ?_
    rw [map_map]
    refine map_congr_left fun y hy => ?_
    show (if y.id = _ then _ else y).st = y.st
    split
    · exact Decidable.byContradiction fun h => hc (hp y hy ‹_› h)
    · rfl

theorem Effect.inv (e : Effect s op s') (h : Inv s) (ht : timelyOp s op = true) : Inv s' := by
  cases e with
  | refused | slots | friends | told => exact h
  | cycle hp => exact inv_start (s := s.track) h (noInflight_of_timely hp ht)
  | add => exact InvL.append_idle h _ rfl (not_held_of_queued rfl rfl)
  | update _ _ _ hg hf hq => exact h.map_quiet _ (update_id_user hf _) (quiet_update h hg hq)

theorem Effect.heldCount_le (e : Effect s op s') (h : Inv s) (ht : timelyOp s op = true) :
    s'.heldCount ≤ s.heldCount ∨ s'.heldCount ≤ s'.slots := by
  cases e with
  | refused | slots | friends | told => exact .inl (Nat.le_refl _)
  | add =>
    rw [Sched.heldCount, countP_append, countP_singleton, if_neg (by rw [not_held_of_queued rfl rfl]; exact Bool.false_ne_true)]
    exact .inl (Nat.le_refl _)
  | update _ _ _ hg _ hq =>
    refine .inl ?_
    rw [Sched.heldCount, countP_map]
    exact countP_mono_left fun y hy hp => (quiet_update h hg hq y hy).held hp
  | cycle hp =>
    have hn := noInflight_of_timely hp ht
    have h1 : s.track.start.heldCount = s.heldCount + _ := heldCount_start (s := s.track) h hn
    have h2 : _ ≤ s.slots - s.procUploads := select_length_le s.track
    have h3 : (taskSel s.track.select).length ≤ s.track.select.length := length_filter_le _ _
    have h4 : s.heldCount = s.procUploads := heldCount_of_noInflight (s := s.track) hn
    show s.track.start.heldCount ≤ s.heldCount ∨ s.track.start.heldCount ≤ s.slots
    omega

theorem Effect.trackInv (e : Effect s op s') (h : TrackInv s) : TrackInv s' := by
  cases e with
  | refused => exact h
  | slots | friends => exact ⟨h.same, h.idle⟩
  | cycle => exact (trackInv_track h).map _ _ fun x _ => markSel_user _ x
  | add => exact h.of_xs _ _ fun x hx => ⟨x, mem_append_left _ hx, rfl⟩
  | update _ _ _ _ hf => exact h.map _ _ fun y _ => (update_id_user hf _ y).2
  | told _ F _ _ _ hF => exact ⟨congrArg F h.same, fun u hu => h.idle u (hF s.store u ▸ hu)⟩

end

theorem timely_cons {s : Sched} {op : Op} {ops : List Op} :
    Timely s (op :: ops) ↔ timelyOp s op = true ∧ Timely (step s op) ops := by
  simp [Timely, timelyB]

theorem runFrom_induction {P : Sched → Prop} {A : Op → Prop}
    (hstep : ∀ s op, P s → A op → timelyOp s op = true → P (step s op)) {s : Sched} (ops : List Op) (h : P s)
    (ha : ∀ op ∈ ops, A op) (ht : Timely s ops) : P (runFrom s ops) := by
  induction ops generalizing s with
  | nil => exact h
  | cons op ops ih =>
    have ht' := timely_cons.mp ht
    exact ih (hstep _ op h (ha op mem_cons_self) ht'.1) (fun o ho => ha o (mem_cons_of_mem _ ho)) ht'.2

theorem inv_step {s : Sched} (h : Inv s) (op : Op) (ht : timelyOp s op = true) : Inv (step s op) :=
  (step_effect s op).inv h ht

theorem inv_runFrom {s : Sched} (h : Inv s) (ops : List Op) (ht : Timely s ops) : Inv (runFrom s ops) :=
  runFrom_induction (A := fun _ => True) (fun _ op h _ ht => inv_step h op ht) ops h (fun _ _ => trivial) ht

theorem inv_run (ops : List Op) (ht : Timely {} ops) : Inv (run ops) := inv_runFrom (inv_init 2) ops ht

theorem heldCount_le_slots_runFrom {s : Sched} (hi : Inv s) (hh : s.heldCount ≤ s.slots) (ops : List Op)
    (hc : ∀ op ∈ ops, ∀ m, op ≠ .setSlots m) (ht : Timely s ops) :
    (runFrom s ops).heldCount ≤ s.slots ∧ (runFrom s ops).slots = s.slots := by
  have ⟨_, hh', hs'⟩ := runFrom_induction (P := fun t => Inv t ∧ t.heldCount ≤ t.slots ∧ t.slots = s.slots)
    (fun t op ⟨hi, hh, hs⟩ ha ht =>
      have hs' : (step t op).slots = t.slots := (step_effect t op).slots_eq ha
      -- not more held than before, under a limit that did not change; or within the limit outright (a cycle)
      have hle : (step t op).heldCount ≤ (step t op).slots :=
        ((step_effect t op).heldCount_le hi ht).elim (fun h => hs' ▸ Nat.le_trans h hh) id
      ⟨inv_step hi op ht, hle, hs' ▸ hs⟩)
    ops ⟨hi, hh, rfl⟩ hc ht
  exact ⟨hs' ▸ hh', hs'⟩

theorem trackInv_runFrom {s : Sched} (h : TrackInv s) (ops : List Op) : TrackInv (runFrom s ops) :=
  foldlRecOn ops step h fun s hs op _ => (step_effect s op).trackInv hs

end AioslskVerif.Sched
