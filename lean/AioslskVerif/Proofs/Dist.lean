import AioslskVerif.Spec.DistTree
import AioslskVerif.Model.DistSusp
/-! The invariant of the distributed-tree model (C13), what the elementary state changes of the handlers do to it, and
the one handler that never waits for the server: a new connection. The handlers that notify the server are followed in
`Proofs/DistSusp.lean`, where the invariant is shown for every history. -/
namespace AioslskVerif.Dist

/-- what a child was last told agrees with the advertised values `a`; for level 0 the root may never
have been written (`_add_child` omits it, the protocol lets the child assume the sender). -/
def ToldOK (a : Adv) (l : Option Nat) (r : Option Name) : Prop :=
  l = some a.level ∧ (r = some a.root ∨ (r = none ∧ a.level = 0))

structure SInv (s : DState) : Prop where
  fresh : ∀ c ∈ s.live, c < s.nextConn
  liveNodup : s.live.Nodup
  childNodup : s.children.Nodup
  parentLive : ∀ c, s.parent = some c → c ∈ s.live
  childLive : ∀ c ∈ s.children, c ∈ s.live
  parentComplete : ∀ c, s.parent = some c → (s.level c).isSome ∧ (s.root c).isSome
  pnc : ∀ c, s.parent = some c → ∀ d ∈ s.children, s.name d ≠ s.name c

structure TInv (s : DState) : Prop where
  toldS : ∀ me, s.session = some me → s.toldServer = some (s.adv me, s.parent.isNone)
  toldC : ∀ me, s.session = some me → ∀ d ∈ s.children, ToldOK (s.adv me) (s.toldL d) (s.toldR d)

structure Inv (s : DState) : Prop where
  str : SInv s
  told : TInv s

/-- the two parts of `TInv` on their own: with sends to the server suspended the first still holds at all times, the
second once the suspended handlers have run -/
def ToldS (d : DState) : Prop := ∀ me, d.session = some me → d.toldServer = some (d.adv me, d.parent.isNone)

def ToldC (d : DState) : Prop :=
  ∀ me, d.session = some me → ∀ c ∈ d.children, ToldOK (d.adv me) (d.toldL c) (d.toldR c)

/-- the admission guard of `_check_if_new_child`, evaluated in the state *before* the new connection -/
def Admissible (s : DState) (n : Name) : Prop :=
  s.accept = true ∧ s.children.length < s.maxChildren ∧ n ∉ s.potential ∧ s.parentName ≠ some n

theorem upd_ne {α : Type} (f : Nat → α) (c : Nat) (v : α) (d : Nat) (h : d ≠ c) : upd f c v d = f d := by
  simp [upd, h]
@[simp] theorem upd_self {α : Type} (f : Nat → α) (c : Nat) (v : α) : upd f c v c = v := by
  simp [upd]

theorem adv_congr (s s' : DState) (me : Name) (hp : s'.parent = s.parent)
    (hv : ∀ c, s.parent = some c → s'.level c = s.level c ∧ s'.root c = s.root c) :
    s'.adv me = s.adv me := by
  unfold DState.adv
  rw [hp]
  cases h : s.parent with
  | none => rfl
  | some c => simp only [(hv c h).1, (hv c h).2]

theorem adv_noParent (s : DState) (me : Name) (h : s.parent = none) : s.adv me = ⟨0, me⟩ := by
  unfold DState.adv; rw [h]

theorem SInv.derived {s : DState} (h : SInv s) (me : Name) (hd : ¬ Degenerate s me) :
    Derived s me (s.adv me) s.parent.isNone := by
  unfold Derived DState.adv
  cases hp : s.parent with
  | none => exact ⟨rfl, rfl⟩
  | some c =>
    have hc := h.parentComplete c hp
    obtain ⟨l, hl⟩ := Option.isSome_iff_exists.1 hc.1
    obtain ⟨r, hr⟩ := Option.isSome_iff_exists.1 hc.2
    have hne : ¬ (s.root c = some me) := fun e => hd ⟨c, hp, e⟩
    refine ⟨l, r, hl, hr, ?_, rfl⟩
    rw [hr] at hne
    simp only [hl, hr, Option.getD_some, if_neg hne]

theorem adv_derived (s : DState) (me : Name) (h : Inv s) (hd : ¬ Degenerate s me) :
    Derived s me (s.adv me) s.parent.isNone := h.str.derived me hd

theorem SInv.congr {s s' : DState} (h : SInv s) (h1 : s'.live = s.live) (h2 : s'.nextConn = s.nextConn)
    (h3 : s'.children = s.children) (h4 : s'.parent = s.parent) (h5 : s'.level = s.level)
    (h6 : s'.root = s.root) (h7 : s'.name = s.name) : SInv s' := by
  constructor
  · rw [h1, h2]; exact h.fresh
  · rw [h1]; exact h.liveNodup
  · rw [h3]; exact h.childNodup
  · rw [h1, h4]; exact h.parentLive
  · rw [h1, h3]; exact h.childLive
  · rw [h4, h5, h6]; exact h.parentComplete
  · rw [h3, h4, h7]; exact h.pnc

theorem SInv.sub {s s' : DState} (h : SInv s) (hl : s'.live.Sublist s.live) (hc : s'.children.Sublist s.children)
    (h2 : s'.nextConn = s.nextConn) (h4 : s'.parent = s.parent) (h5 : s'.level = s.level) (h6 : s'.root = s.root)
    (h7 : s'.name = s.name) (hpl : ∀ p, s.parent = some p → p ∈ s'.live) (hcl : ∀ c ∈ s'.children, c ∈ s'.live) :
    SInv s' := by
  refine ⟨?_, h.liveNodup.sublist hl, h.childNodup.sublist hc, ?_, hcl, ?_, ?_⟩
  · intro c hm; rw [h2]; exact h.fresh c (hl.subset hm)
  · rw [h4]; exact hpl
  · rw [h4, h5, h6]; exact h.parentComplete
  · rw [h4, h7]; exact fun p hp d hd => h.pnc p hp d (hc.subset hd)

theorem ToldS.frame {d d' : DState} (h : ToldS d) (h1 : d'.session = d.session) (h2 : d'.toldServer = d.toldServer)
    (h3 : d'.parent = d.parent) (h4 : ∀ me, d'.adv me = d.adv me) : ToldS d' := by
  intro me hm
  rw [h2, h3, h4]
  exact h me (h1 ▸ hm)

theorem ToldC.frame {d d' : DState} (h : ToldC d) (h1 : d'.session = d.session) (h4 : ∀ me, d'.adv me = d.adv me)
    (hc : ∀ c ∈ d'.children, c ∈ d.children ∧ d'.toldL c = d.toldL c ∧ d'.toldR c = d.toldR c) :
    ToldC d' := by
  intro me hm c hm'
  obtain ⟨h2, hl, hr⟩ := hc c hm'
  rw [h4, hl, hr]
  exact h me (h1 ▸ hm) c h2

/-- `s'` differs from `s` at most in the admission limits, the potential-parent cache and the frame counters -/
structure Quiet (s s' : DState) : Prop where
  session : s'.session = s.session
  live : s'.live = s.live
  nextConn : s'.nextConn = s.nextConn
  children : s'.children = s.children
  parent : s'.parent = s.parent
  level : s'.level = s.level
  root : s'.root = s.root
  name : s'.name = s.name
  toldServer : s'.toldServer = s.toldServer
  toldL : s'.toldL = s.toldL
  toldR : s'.toldR = s.toldR

theorem Quiet.adv {s s' : DState} (q : Quiet s s') (me : Name) : s'.adv me = s.adv me :=
  adv_congr s s' me q.parent (fun c _ => by rw [q.level, q.root]; exact ⟨rfl, rfl⟩)

theorem Quiet.sinv {s s' : DState} (q : Quiet s s') (h : SInv s) : SInv s' :=
  h.congr q.live q.nextConn q.children q.parent q.level q.root q.name

theorem Quiet.toldS {s s' : DState} (q : Quiet s s') (h : ToldS s) : ToldS s' :=
  h.frame q.session q.toldServer q.parent q.adv

theorem Quiet.toldC {s s' : DState} (q : Quiet s s') (h : ToldC s) : ToldC s' :=
  h.frame q.session q.adv (fun c hc => ⟨q.children ▸ hc, by rw [q.toldL], by rw [q.toldR]⟩)

def Op.quiet : Op → Bool
  | .potentialParents _ | .userStats _ _ | .minSpeed _ | .speedRatio _ | .serverStateChange => true
  | _ => false

theorem requestUserStats_quiet {s t : DState} (q : Quiet s t) : Quiet s (requestUserStats t) := by
  unfold requestUserStats
  split
  · exact { q with }
  · exact q

theorem step_quiet (s : DState) (op : Op) (h : op.quiet = true) : Quiet s (step s op) := by
  cases op with
  | potentialParents ns | serverStateChange => constructor <;> rfl
  | userStats n sp =>
    have q : ∀ a m l k, Quiet s { s with accept := a, maxChildren := m, lastAccept := l, nAccept := k } :=
      fun _ _ _ _ => by constructor <;> rfl
    show Quiet s (onUserStats s n sp)
    unfold onUserStats
    dsimp only
    split
    · split
      · exact q _ _ _ _
      · split <;> exact q _ _ _ _
    · exact q _ _ _ _
  | minSpeed n | speedRatio n =>
    exact requestUserStats_quiet (by constructor <;> rfl)
  | initialized _ _ | level _ _ | root _ _ | closed _ | resetDistributed | sessionInit _ | sessionDestroyed =>
    cases h

@[simp] theorem notifyServer_session (s : DState) : (notifyServer s).session = s.session := by
  unfold notifyServer; split <;> rfl
@[simp] theorem notifyServer_parent (s : DState) : (notifyServer s).parent = s.parent := by
  unfold notifyServer; split <;> rfl
@[simp] theorem notifyServer_children (s : DState) : (notifyServer s).children = s.children := by
  unfold notifyServer; split <;> rfl
@[simp] theorem notifyServer_live (s : DState) : (notifyServer s).live = s.live := by
  unfold notifyServer; split <;> rfl
@[simp] theorem notifyServer_nextConn (s : DState) : (notifyServer s).nextConn = s.nextConn := by
  unfold notifyServer; split <;> rfl
@[simp] theorem notifyServer_level (s : DState) : (notifyServer s).level = s.level := by
  unfold notifyServer; split <;> rfl
@[simp] theorem notifyServer_root (s : DState) : (notifyServer s).root = s.root := by
  unfold notifyServer; split <;> rfl
@[simp] theorem notifyServer_name (s : DState) : (notifyServer s).name = s.name := by
  unfold notifyServer; split <;> rfl
@[simp] theorem notifyServer_toldL (s : DState) : (notifyServer s).toldL = s.toldL := by
  unfold notifyServer; split <;> rfl
@[simp] theorem notifyServer_toldR (s : DState) : (notifyServer s).toldR = s.toldR := by
  unfold notifyServer; split <;> rfl
@[simp] theorem notifyServer_potential (s : DState) : (notifyServer s).potential = s.potential := by
  unfold notifyServer; split <;> rfl
@[simp] theorem notifyServer_accept (s : DState) : (notifyServer s).accept = s.accept := by
  unfold notifyServer; split <;> rfl
@[simp] theorem notifyServer_maxChildren (s : DState) : (notifyServer s).maxChildren = s.maxChildren := by
  unfold notifyServer; split <;> rfl
@[simp] theorem notifyServer_minSpeed (s : DState) : (notifyServer s).minSpeed = s.minSpeed := by
  unfold notifyServer; split <;> rfl
@[simp] theorem notifyServer_ratio (s : DState) : (notifyServer s).ratio = s.ratio := by
  unfold notifyServer; split <;> rfl

@[simp] theorem notifyChildren_session (s : DState) : (notifyChildren s).session = s.session := by
  unfold notifyChildren; split <;> rfl
@[simp] theorem notifyChildren_parent (s : DState) : (notifyChildren s).parent = s.parent := by
  unfold notifyChildren; split <;> rfl
@[simp] theorem notifyChildren_children (s : DState) : (notifyChildren s).children = s.children := by
  unfold notifyChildren; split <;> rfl
@[simp] theorem notifyChildren_live (s : DState) : (notifyChildren s).live = s.live := by
  unfold notifyChildren; split <;> rfl
@[simp] theorem notifyChildren_nextConn (s : DState) : (notifyChildren s).nextConn = s.nextConn := by
  unfold notifyChildren; split <;> rfl
@[simp] theorem notifyChildren_level (s : DState) : (notifyChildren s).level = s.level := by
  unfold notifyChildren; split <;> rfl
@[simp] theorem notifyChildren_root (s : DState) : (notifyChildren s).root = s.root := by
  unfold notifyChildren; split <;> rfl
@[simp] theorem notifyChildren_name (s : DState) : (notifyChildren s).name = s.name := by
  unfold notifyChildren; split <;> rfl
@[simp] theorem notifyChildren_toldServer (s : DState) : (notifyChildren s).toldServer = s.toldServer := by
  unfold notifyChildren; split <;> rfl
@[simp] theorem notifyChildren_potential (s : DState) : (notifyChildren s).potential = s.potential := by
  unfold notifyChildren; split <;> rfl
@[simp] theorem notifyChildren_accept (s : DState) : (notifyChildren s).accept = s.accept := by
  unfold notifyChildren; split <;> rfl
@[simp] theorem notifyChildren_maxChildren (s : DState) : (notifyChildren s).maxChildren = s.maxChildren := by
  unfold notifyChildren; split <;> rfl
@[simp] theorem notifyChildren_minSpeed (s : DState) : (notifyChildren s).minSpeed = s.minSpeed := by
  unfold notifyChildren; split <;> rfl
@[simp] theorem notifyChildren_ratio (s : DState) : (notifyChildren s).ratio = s.ratio := by
  unfold notifyChildren; split <;> rfl

@[simp] theorem notifyServer_adv (s : DState) (me : Name) : (notifyServer s).adv me = s.adv me :=
  adv_congr s _ me (by simp) (fun c _ => by simp)
@[simp] theorem notifyChildren_adv (s : DState) (me : Name) : (notifyChildren s).adv me = s.adv me :=
  adv_congr s _ me (by simp) (fun c _ => by simp)

theorem notifyServer_toldServer (s : DState) (me : Name) (h : s.session = some me) :
    (notifyServer s).toldServer = some (s.adv me, s.parent.isNone) := by
  unfold notifyServer; simp [h]

theorem notifyChildren_told (s : DState) (me : Name) (h : s.session = some me) (d : ConnId)
    (hd : d ∈ s.children) :
    (notifyChildren s).toldL d = some (s.adv me).level ∧ (notifyChildren s).toldR d = some (s.adv me).root := by
  unfold notifyChildren; simp [h, hd]

theorem notifyServer_sinv (d : DState) (h : SInv d) : SInv (notifyServer d) :=
  h.congr (by simp) (by simp) (by simp) (by simp) (by simp) (by simp) (by simp)

theorem notifyServer_toldS (d : DState) : ToldS (notifyServer d) := by
  intro me hm
  rw [notifyServer_session] at hm
  rw [notifyServer_adv, notifyServer_parent]
  exact notifyServer_toldServer d me hm

theorem SInv.parent_not_child {d : DState} (h : SInv d) {p : ConnId} (hp : d.parent = some p) : p ∉ d.children :=
  fun hm => h.pnc p hp p hm rfl

theorem dropConn_sinv (d : DState) (c : ConnId) (h : SInv d) (hp : d.parent ≠ some c) : SInv (dropConn d c) := by
  refine h.sub List.erase_sublist List.erase_sublist rfl rfl rfl rfl rfl (fun p hpp => ?_) (fun e he => ?_)
  · exact (List.mem_erase_of_ne (fun (e : p = c) => hp (e ▸ hpp))).2 (h.parentLive p hpp)
  · have he' := h.childNodup.mem_erase_iff.1 he
    exact (List.mem_erase_of_ne he'.1).2 (h.childLive e he'.2)

@[simp] theorem dropConn_adv (d : DState) (c : ConnId) (me : Name) : (dropConn d c).adv me = d.adv me :=
  adv_congr d _ me rfl (fun _ _ => ⟨rfl, rfl⟩)

theorem dropConn_toldS (d : DState) (c : ConnId) (h : ToldS d) : ToldS (dropConn d c) :=
  h.frame rfl rfl rfl (dropConn_adv d c)

theorem dropConn_toldC (d : DState) (c : ConnId) (h : ToldC d) : ToldC (dropConn d c) :=
  h.frame rfl (dropConn_adv d c) (fun _ he => ⟨List.mem_of_mem_erase he, rfl, rfl⟩)

theorem dropConn_not_live (d : DState) (c : ConnId) (h : d.live.Nodup) : c ∉ (dropConn d c).live :=
  fun hm => (h.mem_erase_iff.1 hm).1 rfl

theorem sinv_noParent (s : DState) (h : SInv s) : SInv { s with parent := none } := by
  refine ⟨h.fresh, h.liveNodup, h.childNodup, ?_, h.childLive, ?_, ?_⟩
  · intro c hc; cases hc
  · intro c hc; cases hc
  · intro c hc; cases hc

theorem sinv_setParent (s : DState) (c : ConnId) (h : SInv s) (hc : c ∈ s.live)
    (hlr : (s.level c).isSome ∧ (s.root c).isSome) (hn : ∀ d ∈ s.children, s.name d ≠ s.name c) :
    SInv { s with parent := some c } := by
  refine ⟨h.fresh, h.liveNodup, h.childNodup, ?_, h.childLive, ?_, ?_⟩
  · intro p hp; cases hp; exact hc
  · intro p hp; cases hp; exact hlr
  · intro p hp; cases hp; exact hn

theorem sinv_announce (s : DState) (c : ConnId) (L : ConnId → Option Nat) (R : ConnId → Option Name)
    (h : SInv s) (hoff : ∀ d, d ≠ c → L d = s.level d ∧ R d = s.root d)
    (hc : s.parent = some c → (L c).isSome ∧ (R c).isSome) : SInv { s with level := L, root := R } := by
  refine ⟨h.fresh, h.liveNodup, h.childNodup, h.parentLive, h.childLive, ?_, h.pnc⟩
  intro p hp
  by_cases e : p = c
  · subst e; exact hc hp
  · have := hoff p e
    show (L p).isSome ∧ (R p).isSome
    rw [this.1, this.2]; exact h.parentComplete p hp

theorem closePeer_eq (s : DState) (c : ConnId) :
    closePeer s c =
      if c ∈ s.live then
        dropConn (if s.parent = some c then notifyChildren (notifyServer { s with parent := none }) else s) c
      else s := rfl

theorem closePeer_of_not_parent (s : DState) (c : ConnId) (hp : s.parent ≠ some c) :
    closePeer s c = if c ∈ s.live then dropConn s c else s := by
  rw [closePeer_eq, if_neg hp]

/-- the state right after the new `DistributedPeer` was appended -/
def withConn (s : DState) (n : Name) : DState :=
  { s with live := s.live ++ [s.nextConn], nextConn := s.nextConn + 1, name := upd s.name s.nextConn n,
           level := upd s.level s.nextConn none, root := upd s.root s.nextConn none,
           toldL := upd s.toldL s.nextConn none, toldR := upd s.toldR s.nextConn none,
           nL := upd s.nL s.nextConn 0, nR := upd s.nR s.nextConn 0 }

theorem initialized_eq (s : DState) (n : Name) (r : Bool) :
    initialized s n r = if r then withConn s n else checkNewChild (withConn s n) s.nextConn := rfl

theorem SInv.nextConn_not_live {s : DState} (h : SInv s) : s.nextConn ∉ s.live :=
  fun hm => Nat.lt_irrefl _ (h.fresh _ hm)

theorem SInv.parent_ne_nextConn {s : DState} (h : SInv s) {p : ConnId} (hp : s.parent = some p) :
    p ≠ s.nextConn := by
  intro e; subst e; exact h.nextConn_not_live (h.parentLive _ hp)

theorem SInv.child_ne_nextConn {s : DState} (h : SInv s) {c : ConnId} (hc : c ∈ s.children) : c ≠ s.nextConn := by
  intro e; subst e; exact h.nextConn_not_live (h.childLive _ hc)

theorem withConn_sinv (s : DState) (n : Name) (hs : SInv s) : SInv (withConn s n) := by
  refine ⟨?_, ?_, hs.childNodup, ?_, ?_, ?_, ?_⟩
  · intro d hd
    have hd' : d ∈ s.live ++ [s.nextConn] := hd
    show d < s.nextConn + 1
    rcases List.mem_append.1 hd' with hd' | hd'
    · exact Nat.lt_succ_of_lt (hs.fresh d hd')
    · rw [List.mem_singleton.1 hd']; exact Nat.lt_succ_self _
  · exact List.nodup_append.2 ⟨hs.liveNodup, by simp, by
      intro a ha b hb; rw [List.mem_singleton.1 hb]; intro e; subst e; exact hs.nextConn_not_live ha⟩
  · intro p hp; exact List.mem_append_left _ (hs.parentLive p hp)
  · intro d hd; exact List.mem_append_left _ (hs.childLive d hd)
  · intro p hp
    show (upd s.level s.nextConn none p).isSome ∧ (upd s.root s.nextConn none p).isSome
    rw [upd_ne _ _ _ _ (hs.parent_ne_nextConn hp), upd_ne _ _ _ _ (hs.parent_ne_nextConn hp)]
    exact hs.parentComplete p hp
  · intro p hp d hd
    show upd s.name s.nextConn n d ≠ upd s.name s.nextConn n p
    rw [upd_ne _ _ _ _ (hs.parent_ne_nextConn hp), upd_ne _ _ _ _ (hs.child_ne_nextConn hd)]
    exact hs.pnc p hp d hd

theorem withConn_adv (s : DState) (n : Name) (hs : SInv s) (me : Name) : (withConn s n).adv me = s.adv me :=
  adv_congr s _ me rfl
    (fun _ hp => ⟨upd_ne _ _ _ _ (hs.parent_ne_nextConn hp), upd_ne _ _ _ _ (hs.parent_ne_nextConn hp)⟩)

theorem withConn_parentName (s : DState) (n : Name) (hs : SInv s) : (withConn s n).parentName = s.parentName := by
  show Option.map (upd s.name s.nextConn n) s.parent = Option.map s.name s.parent
  cases hp : s.parent with
  | none => rfl
  | some p => rw [Option.map_some, Option.map_some, upd_ne _ _ _ _ (hs.parent_ne_nextConn hp)]

theorem withConn_toldC (s : DState) (n : Name) (hs : SInv s) (h : ToldC s) : ToldC (withConn s n) :=
  h.frame rfl (withConn_adv s n hs)
    (fun _ hc => ⟨hc, upd_ne _ _ _ _ (hs.child_ne_nextConn hc), upd_ne _ _ _ _ (hs.child_ne_nextConn hc)⟩)

/-- `_on_peer_connection_initialized`: the new connection is registered; then it is left alone (requested, or a proposed
parent's), disconnected again, or — only if it was not requested and the admission guard held before — made a child. -/
theorem initialized_cases {P : DState → Prop} (s : DState) (n : Name) (r : Bool) (hs : SInv s)
    (h0 : P (withConn s n)) (h1 : P (dropConn (withConn s n) s.nextConn))
    (h2 : r = false → Admissible s n → P (addChild (withConn s n) s.nextConn)) : P (initialized s n r) := by
  rw [initialized_eq]
  cases r with
  | true => exact h0
  | false =>
    have hl : s.nextConn ∈ (withConn s n).live := List.mem_append_right _ (List.mem_singleton_self _)
    have hd : closePeer (withConn s n) s.nextConn = dropConn (withConn s n) s.nextConn := by
      rw [closePeer_of_not_parent (withConn s n) s.nextConn (fun hp => hs.parent_ne_nextConn hp rfl), if_pos hl]
    have hn : (withConn s n).name s.nextConn = n := upd_self _ _ _
    rw [if_neg Bool.false_ne_true]
    unfold checkNewChild
    rw [hd, hn, withConn_parentName s n hs]
    split
    · exact h0
    next hg =>
      split
      · exact h1
      next hacc =>
        split
        · exact h1
        next hlen =>
          exact h2 rfl ⟨Bool.of_not_eq_false hacc, Nat.lt_of_not_le hlen, fun hm => hg (Or.inl hm),
            fun hm => hg (Or.inr hm)⟩

theorem addChild_children (s : DState) (c : ConnId) : (addChild s c).children = s.children ++ [c] := by
  unfold addChild; split <;> rfl

theorem addChild_live (s : DState) (c : ConnId) : (addChild s c).live = s.live := by
  unfold addChild; split <;> rfl

theorem addChild_name (s : DState) (c : ConnId) : (addChild s c).name = s.name := by
  unfold addChild; split <;> rfl

theorem addChild_sinv (s : DState) (c : ConnId) (hs : SInv s) (hc : c ∈ s.live) (hnc : c ∉ s.children)
    (hpn : ∀ p, s.parent = some p → s.name c ≠ s.name p) : SInv (addChild s c) := by
  have hstr : SInv { s with children := s.children ++ [c] } := by
    refine ⟨hs.fresh, hs.liveNodup, ?_, hs.parentLive, ?_, hs.parentComplete, ?_⟩
    · exact List.nodup_append.2 ⟨hs.childNodup, by simp, by
        intro a ha b hb; rw [List.mem_singleton.1 hb]; intro e; subst e; exact hnc ha⟩
    · intro d hd
      rcases List.mem_append.1 hd with hd | hd
      · exact hs.childLive d hd
      · rw [List.mem_singleton.1 hd]; exact hc
    · intro p hp d hd
      rcases List.mem_append.1 hd with hd | hd
      · exact hs.pnc p hp d hd
      · rw [List.mem_singleton.1 hd]; exact hpn p hp
  unfold addChild
  split <;> exact hstr.congr rfl rfl rfl rfl rfl rfl rfl

theorem addChild_toldC (s : DState) (c : ConnId) (h : ToldC s) (hnc : c ∉ s.children) (hR : s.toldR c = none) :
    ToldC (addChild s c) := by
  unfold addChild
  cases hm : s.session with
  | none => intro me hme; cases hme
  | some me =>
    intro me' hme' d hd
    have e : me = me' := Option.some.inj hme'
    subst e
    have hd : d ∈ s.children ++ [c] := hd
    show ToldOK (s.adv me) (upd s.toldL c (some (s.adv me).level) d)
      ((if (s.adv me).level = 0 then s.toldR else upd s.toldR c (some (s.adv me).root)) d)
    rcases List.mem_append.1 hd with hd1 | hd1
    · have hne : d ≠ c := by intro e; subst e; exact hnc hd1
      have := h me hm d hd1
      rw [upd_ne _ _ _ _ hne]
      split
      · exact this
      · rw [upd_ne _ _ _ _ hne]; exact this
    · rw [List.mem_singleton.1 hd1, upd_self]
      split
      next h0 => exact ⟨rfl, Or.inr ⟨hR, h0⟩⟩
      · rw [upd_self]; exact ⟨rfl, Or.inl rfl⟩

theorem initialized_sinv (s : DState) (n : Name) (r : Bool) (hs : SInv s) : SInv (initialized s n r) := by
  have hw := withConn_sinv s n hs
  have hp : (withConn s n).parent ≠ some s.nextConn := fun hp => hs.parent_ne_nextConn hp rfl
  refine initialized_cases s n r hs hw (dropConn_sinv _ _ hw hp) (fun _ ha => ?_)
  refine addChild_sinv _ _ hw (List.mem_append_right _ (List.mem_singleton_self _))
    (fun hm => hs.child_ne_nextConn hm rfl) (fun p hpp e => ?_)
  apply ha.2.2.2
  rw [← withConn_parentName s n hs]
  show Option.map (withConn s n).name (withConn s n).parent = some n
  rw [hpp, Option.map_some, ← e]
  exact congrArg some (upd_self _ _ _)

theorem initialized_toldC (s : DState) (n : Name) (r : Bool) (hs : SInv s) (h : ToldC s) :
    ToldC (initialized s n r) := by
  have hw := withConn_toldC s n hs h
  exact initialized_cases s n r hs hw (dropConn_toldC _ _ hw)
    (fun _ _ => addChild_toldC _ _ hw (fun hm => hs.child_ne_nextConn hm rfl) (upd_self _ _ _))

theorem initialized_children (s : DState) (n : Name) (r : Bool) (d : ConnId) (hs : SInv s)
    (h : d ∈ (initialized s n r).children) :
    d ∈ s.children ∨ (d = s.nextConn ∧ r = false ∧ Admissible s n) := by
  refine initialized_cases
    (P := fun t => d ∈ t.children → d ∈ s.children ∨ (d = s.nextConn ∧ r = false ∧ Admissible s n))
    s n r hs Or.inl (fun h => Or.inl (List.mem_of_mem_erase h)) (fun hr ha h => ?_) h
  rw [addChild_children] at h
  rcases List.mem_append.1 h with h | h
  · exact Or.inl h
  · exact Or.inr ⟨List.mem_singleton.1 h, hr, ha⟩

theorem init_inv : Inv init := by
  refine ⟨⟨?_, List.nodup_nil, List.nodup_nil, ?_, ?_, ?_, ?_⟩, ⟨?_, ?_⟩⟩ <;> simp [init]

end AioslskVerif.Dist
