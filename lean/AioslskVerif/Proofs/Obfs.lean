import AioslskVerif.Proofs.Wire
/-! The obfuscation round trip (C01): the key schedule in closed form (`blockKey`), the encoder loop in
closed form (`encSpec`), and the decoder's key table read at the same positions. -/
namespace AioslskVerif.Obfs

theorem pyRot_eq (x : BitVec 32) (r : Nat) (h : r < 32) : pyRot x r = x.rotateRight r := by
  rw [BitVec.rotateRight_def, Nat.mod_eq_of_lt h]; rfl

theorem getLsbD_rot (x : BitVec 32) (r i : Nat) (hi : i < 32) :
    (x.rotateRight r).getLsbD i = x.getLsbD ((r + i) % 32) := by
  rw [BitVec.getLsbD_rotateRight]
  by_cases h : i < 32 - r % 32
  · simp only [h, decide_true, cond_true]; congr 1; omega
  · simp only [h, decide_false, cond_false, hi, decide_true, Bool.true_and]; congr 1; omega

theorem rot_rot (x : BitVec 32) (a b : Nat) : (x.rotateRight a).rotateRight b = x.rotateRight (a + b) := by
  apply BitVec.eq_of_getLsbD_eq
  intro i hi
  rw [getLsbD_rot _ b i hi, getLsbD_rot _ a _ (Nat.mod_lt _ (by decide)), getLsbD_rot _ _ i hi,
    Nat.add_mod_mod, Nat.add_assoc]

theorem keyToBV_bvToKey (x : BitVec 32) : keyToBV (bvToKey x) = x := by
  rw [show bvToKey x = Wire.le32 x.toNat from rfl, keyToBV, Wire.le32_eq, Wire.leNat_leBytes,
    Nat.mod_eq_of_lt x.isLt, BitVec.ofNat_toNat, BitVec.setWidth_eq]

theorem bvToKey_length (x : BitVec 32) : (bvToKey x).length = 4 := rfl

/-- the key used for 4-byte block `j` (both directions) -/
def blockKey (key : Bytes) (j : Nat) : Bytes := rotateKey key (31 - j % 32)

theorem blockKey_zero (key : Bytes) : rotateKey key 31 = blockKey key 0 := rfl

theorem blockKey_succ (key : Bytes) (j : Nat) : rotateKey (blockKey key j) 31 = blockKey key (j + 1) := by
  unfold blockKey rotateKey
  rw [keyToBV_bvToKey, pyRot_eq _ 31 (by decide), pyRot_eq _ (31 - j % 32) (by omega),
    pyRot_eq _ (31 - (j + 1) % 32) (by omega), rot_rot, ← BitVec.rotateRight_mod_eq_rotateRight]
  -- 31 further places are one place fewer, modulo 32
  congr 2; omega

theorem blockKey_mod (key : Bytes) (j : Nat) : blockKey key (j % 32) = blockKey key j := by
  unfold blockKey; rw [Nat.mod_mod]

def encSpec (key : Bytes) : Nat → Bytes → Bytes
  | _, [] => []
  | idx, b :: r => ((blockKey key (idx / 4)).getD (idx % 4) 0 ^^^ b) :: encSpec key (idx + 1) r

theorem encLoop_eq (key : Bytes) : ∀ (data : Bytes) (idx : Nat) (cur : Bytes),
    (if idx % 4 = 0 then rotateKey cur 31 else cur) = blockKey key (idx / 4) →
    encLoop idx cur data = encSpec key idx data
  | [], _, _, _ => rfl
  | b :: r, idx, cur, hk => by
    simp only [encLoop, encSpec, hk]
    congr 1
    apply encLoop_eq key r (idx + 1)
    -- the key is rotated once per block, at the block's first byte
    by_cases h4 : (idx + 1) % 4 = 0
    · rw [if_pos h4, blockKey_succ]; congr 1; omega
    · rw [if_neg h4]; congr 1; omega

theorem encSpec_length (key : Bytes) : ∀ (data : Bytes) (idx : Nat), (encSpec key idx data).length = data.length
  | [], _ => rfl
  | _ :: r, idx => congrArg (· + 1) (encSpec_length key r (idx + 1))

theorem encSpec_append (key : Bytes) : ∀ (a b : Bytes) (idx : Nat),
    encSpec key idx (a ++ b) = encSpec key idx a ++ encSpec key (idx + a.length) b
  | [], b, idx => rfl
  | x :: a, b, idx => by
    rw [List.cons_append, encSpec, encSpec_append key a b (idx + 1), List.length_cons, Nat.add_right_comm,
      ← Nat.add_assoc]; rfl

theorem encode_eq (key data : Bytes) : encode key data = key ++ encSpec key 0 data :=
  congrArg (key ++ ·) (encLoop_eq key data 0 key (blockKey_zero key))

theorem fullKey_succ (key : Bytes) (ka : Nat) :
    fullKey key (ka + 1) = fullKey key ka ++ rotateKey key (31 - ka) := by
  simp [fullKey, List.range_succ, List.flatMap_append]

theorem fullKey_length (key : Bytes) : ∀ ka, (fullKey key ka).length = 4 * ka
  | 0 => rfl
  | ka + 1 => by rw [fullKey_succ, List.length_append, fullKey_length key ka]; rfl

theorem fullKey_get (key : Bytes) : ∀ (ka j o : Nat), j < ka → o < 4 →
    (fullKey key ka).getD (4 * j + o) 0 = (rotateKey key (31 - j)).getD o 0
  | ka + 1, j, o, hj, ho => by
    rw [fullKey_succ, List.getD_eq_getElem?_getD, List.getD_eq_getElem?_getD]
    by_cases h : j < ka
    · rw [List.getElem?_append_left (by rw [fullKey_length]; omega), ← List.getD_eq_getElem?_getD,
        fullKey_get key ka j o h ho, List.getD_eq_getElem?_getD]
    · have : j = ka := by omega
      subst this
      rw [List.getElem?_append_right (by rw [fullKey_length]; omega), fullKey_length, Nat.add_sub_cancel_left]

/-- the decoder's key byte at position `p` of an `n`-byte message is the encoder's -/
theorem fullKey_byte (key : Bytes) (n p : Nat) (hp : p < n) :
    (fullKey key (min ((n + 3) / 4) 32)).getD (p % (fullKey key (min ((n + 3) / 4) 32)).length) 0
      = (blockKey key (p / 4)).getD (p % 4) 0 := by
  generalize hK : min ((n + 3) / 4) 32 = K
  have hpos : 0 < K := by omega
  -- the table repeats after 32 blocks; a shorter one covers the whole message
  have hj : p / 4 % K = p / 4 % 32 := by
    by_cases h : K = 32
    · rw [h]
    · rw [Nat.mod_eq_of_lt (by omega), Nat.mod_eq_of_lt (by omega)]
  rw [fullKey_length, ← Nat.div_add_mod (p % (4 * K)) 4,
    fullKey_get key K _ _ (Nat.div_lt_of_lt_mul (Nat.mod_lt _ (by omega))) (Nat.mod_lt _ (by decide)),
    Nat.mod_mul_right_div_self, Nat.mod_mul_right_mod, hj]
  rfl

theorem xor_cancel (a b : UInt8) : (a ^^^ b) ^^^ a = b := by
  rw [UInt8.xor_comm a b, UInt8.xor_assoc, UInt8.xor_self, UInt8.xor_zero]

theorem xorAt_encSpec (key fk : Bytes) : ∀ (data : Bytes) (idx : Nat),
    (∀ p, idx ≤ p → p < idx + data.length →
      fk.getD (p % fk.length) 0 = (blockKey key (p / 4)).getD (p % 4) 0) →
    xorAt fk idx (encSpec key idx data) = data
  | [], _, _ => rfl
  | b :: r, idx, h => by
    simp only [encSpec, xorAt]
    rw [h idx (Nat.le_refl _) (by simp), xor_cancel]
    congr 1
    apply xorAt_encSpec key fk r (idx + 1)
    intro p hp1 hp2
    exact h p (by omega) (by simp only [List.length_cons]; omega)

theorem decode_encode (key data : Bytes) (hk : key.length = 4) : decode (encode key data) = data := by
  rw [encode_eq, decode, List.take_left' hk, List.drop_left' hk, encSpec_length]
  exact xorAt_encSpec key _ data 0 fun p _ hp => fullKey_byte key data.length p (by omega)

end AioslskVerif.Obfs
