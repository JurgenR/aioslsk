import AioslskVerif.Model.FileXfer
/-!
The four models behind C04, each with its invariant. Download side: `Inv` is the book-keeping invariant, kept
against any sender. What a step does to the projections that the statements about the sender read is said once
(`Effect`); `HInv` (the file does not change), `AInv` (it changes between the attempts) and `GInv` (it only grows)
are kept by each kind of effect. `Fed` describes a fault-free read; a delivery and a whole attempt are chains of
them. Upload side: `UInv` (counter and handle follow the bytes sent) and `NInv` (the failure notice), and the
attempt that runs to the end (`upload_completes`). `Wire`: what a receiver that reads `w` bytes and decodes `d` of
them gets of a little-endian value. `Ctl`: the pair of transfer states with the messages in flight between them,
its invariant (`Ctl.Inv`, the Prop form of `invB`) and the round of management cycles from a quiescent state.
-/
namespace AioslskVerif.FileXfer
open AioslskVerif.Generated.Rate

/-- the shape of nearly every case of the step functions (`step d op` unfolds to the `if`) -/
theorem guarded {α : Type} {P : α → Prop} {c : Prop} [Decidable c] {a b : α} (ha : c → P a) (hb : ¬c → P b) :
    P (if c then a else b) := by
  split
  · exact ha ‹_›
  · exact hb ‹_›

theorem chunkOf_pos (lim : Bool) : 0 < chunkOf lim := by
  cases lim <;> decide

@[simp] theorem finish_loc (d : Dl) : (finish d).loc = d.loc := rfl
@[simp] theorem finish_bt (d : Dl) : (finish d).bt = d.bt := rfl
@[simp] theorem finish_filesize (d : Dl) : (finish d).filesize = d.filesize := rfl
@[simp] theorem finish_closed (d : Dl) : (finish d).closed = true := rfl

theorem finish_st (d : Dl) :
    (finish d).st = .complete ∧ d.filesize = d.bt ∨ (finish d).st = .failedCancelled ∧ d.filesize ≠ d.bt := by
  unfold finish
  by_cases h : d.filesize = d.bt <;> simp [h]

theorem finish_st_ne_downloading (d : Dl) : (finish d).st ≠ .downloading := by
  rcases finish_st d with h | h <;> simp [h.1]

theorem finish_st_ne_queued (d : Dl) : (finish d).st ≠ .queued := by
  rcases finish_st d with h | h <;> simp [h.1]

/-- `d` after one iteration of the `receive_file` loop, before the loop looks at the counter -/
def wrote (d : Dl) (data : Bytes) : Dl :=
  { d with loc := d.loc ++ data, bt := d.bt + data.length, received := d.received + data.length,
           log := d.log ++ [data.length] }

theorem onRead_def (d : Dl) (data : Bytes) :
    onRead d data =
      if ((d.received + data.length : Nat) : Int) ≥ d.remaining then finish (wrote d data) else wrote d data := rfl

theorem onRead_loc (d : Dl) (data : Bytes) : (onRead d data).loc = d.loc ++ data := by
  rw [onRead_def]; split <;> rfl

theorem onRead_bt (d : Dl) (data : Bytes) : (onRead d data).bt = d.bt + data.length := by
  rw [onRead_def]; split <;> rfl

theorem onRead_filesize (d : Dl) (data : Bytes) : (onRead d data).filesize = d.filesize := by
  rw [onRead_def]; split <;> rfl

theorem restore_ne_downloading (s : Saved) : s.restore ≠ .downloading := by
  unfold Saved.restore
  split
  · split <;> exact DState.noConfusion
  · assumption

theorem complete_of_restore (s : Saved) (hr : s.st = .downloading → s.bt < s.filesize)
    (h : s.restore = .complete) : s.st = .complete := by
  unfold Saved.restore at h
  split at h
  · next hs =>
    -- a record saved while DOWNLOADING restores to INCOMPLETE or, with every byte in, to COMPLETE: `hr` rules that out
    have := hr hs
    split at h
    · omega
    · cases h
  · exact h

theorem restore_of_complete (s : Saved) (h : s.st = .complete) : s.restore = .complete := by
  unfold Saved.restore; rw [h]

/-- bookkeeping invariant — holds against ANY sender, under any user action and any restart -/
structure Inv (d : Dl) : Prop where
  bt_len : d.st = .downloading → d.bt = d.loc.length
  size_ann : d.st = .downloading → d.filesize = d.ann
  complete_size : d.st = .complete → d.loc.length = d.ann
  running : d.st = .downloading → 0 < d.chunk ∧ (d.received : Int) < d.remaining ∧
    d.remaining - (d.received : Int) = (d.filesize : Int) - (d.loc.length : Int)
  path : d.st = .downloading ∨ d.st = .complete → d.hasPath = true
  saved_complete : ∀ s, d.saved = some s → s.st = .complete → d.st = .complete
  saved_running : ∀ s, d.saved = some s → s.st = .downloading → s.bt < s.filesize
  saved_path : ∀ s, d.saved = some s → s.st = .complete → s.hasPath = true

theorem Inv.set_remote {d : Dl} (h : Inv d) (R : Bytes) : Inv { d with remote := R } :=
  ⟨h.bt_len, h.size_ann, h.complete_size, h.running, h.path, h.saved_complete, h.saved_running, h.saved_path⟩

theorem inv_init (pre : Bytes) (hp : Bool) : Inv (Dl.init pre hp) :=
  have hs : ∀ s, (Dl.init pre hp).saved ≠ some s := fun s h => Option.some_ne_none s h.symm
  ⟨DState.noConfusion, DState.noConfusion, DState.noConfusion, DState.noConfusion,
   fun h => h.elim DState.noConfusion DState.noConfusion,
   fun s h => absurd h (hs s), fun s h => absurd h (hs s), fun s h => absurd h (hs s)⟩

/-- a step that leaves the cache alone and does not leave COMPLETE keeps what `Inv` says of the cache -/
theorem Inv.same_cache {d d' : Dl} (hi : Inv d) (hsv : d'.saved = d.saved) (hc : d.st = .complete → d'.st = .complete)
    (hrun : d'.st = .downloading → d'.bt = d'.loc.length ∧ d'.filesize = d'.ann ∧ d'.hasPath = true ∧
      0 < d'.chunk ∧ (d'.received : Int) < d'.remaining ∧
      d'.remaining - (d'.received : Int) = (d'.filesize : Int) - (d'.loc.length : Int))
    (hdone : d'.st = .complete → d'.loc.length = d'.ann ∧ d'.hasPath = true) : Inv d' where
  bt_len h := (hrun h).1
  size_ann h := (hrun h).2.1
  complete_size h := (hdone h).1
  running h := (hrun h).2.2.2
  path h := h.elim (fun h => (hrun h).2.2.1) fun h => (hdone h).2
  saved_complete s hs hsc := hc (hi.saved_complete s (hsv ▸ hs) hsc)
  saved_running := hsv ▸ hi.saved_running
  saved_path := hsv ▸ hi.saved_path

/-- a step out of a state other than COMPLETE into one that is neither DOWNLOADING nor COMPLETE, the cache left
alone: every clause of `Inv` about the download itself is void afterwards -/
theorem Inv.stopped {d d' : Dl} (hi : Inv d) (hsv : d'.saved = d.saved) (hnc : d.st ≠ .complete)
    (hnd : d'.st ≠ .downloading) (hnc' : d'.st ≠ .complete) : Inv d' :=
  hi.same_cache hsv (absurd · hnc) (absurd · hnd) (absurd · hnc')

theorem inv_finish {d₀ d : Dl} (hi : Inv d₀) (hsv : d.saved = d₀.saved) (hnc : d₀.st ≠ .complete)
    (hb : d.bt = d.loc.length) (ha : d.filesize = d.ann) (hp : d.hasPath = true) : Inv (finish d) := by
  refine hi.same_cache hsv (absurd · hnc) (absurd · (finish_st_ne_downloading d)) fun hc => ⟨?_, hp⟩
  rcases finish_st d with h1 | h1
  · exact hb.symm.trans (h1.2.symm.trans ha)
  · rw [h1.1] at hc; cases hc

theorem inv_onRead (d : Dl) (data : Bytes) (hst : d.st = .downloading) (hi : Inv d) :
    Inv (onRead d data) := by
  have hb := hi.bt_len hst
  have ha := hi.size_ann hst
  have hp := hi.path (Or.inl hst)
  have hnc : d.st ≠ .complete := by simp [hst]
  obtain ⟨hc, _, hr⟩ := hi.running hst
  rw [onRead_def]
  split
  · exact inv_finish hi rfl hnc (by simp [wrote, hb]) ha hp
  · next hlt =>
    refine hi.same_cache rfl (absurd · hnc) (fun _ => ⟨by simp [wrote, hb], ha, hp, hc, ?_, ?_⟩)
      fun hc => by simp [wrote, hst] at hc
    · simp only [wrote] at hlt ⊢; omega
    · simp only [wrote, List.length_append]; omega

theorem drain_succ (fuel : Nat) (d : Dl) (buf : Bytes) (hs : d.st = .downloading) (hb : buf ≠ []) :
    drain (fuel + 1) d buf = drain fuel (onRead d (buf.take d.chunk)) (buf.drop d.chunk) := by
  rw [drain, if_neg (by simp [hs, hb])]

theorem drain_not_downloading (fuel : Nat) (d : Dl) (buf : Bytes) (h : d.st ≠ .downloading) :
    drain fuel d buf = d := by
  cases fuel with
  | zero => rfl
  | succ n => unfold drain; simp [h]

theorem drain_nil (fuel : Nat) (d : Dl) : drain fuel d [] = d := by
  cases fuel with
  | zero => rfl
  | succ n => unfold drain; simp

theorem inv_drain (fuel : Nat) (d : Dl) (buf : Bytes) (h : Inv d) : Inv (drain fuel d buf) := by
  fun_induction drain fuel d buf with
  | case1 => exact h
  | case2 => exact h
  | case3 fuel d buf hc ih =>
    exact ih (inv_onRead d _ (Decidable.of_not_not fun hs => hc (Or.inl hs)) h)

theorem canBegin_not_complete {d : Dl} (h : canBegin d = true) : d.st ≠ .complete := by
  intro hc; simp [canBegin, hc] at h

theorem canBegin_not_downloading {d : Dl} (h : canBegin d = true) : d.st ≠ .downloading := by
  intro hc; simp [canBegin, hc] at h

theorem inv_begin (d : Dl) (a : Nat) (lim : Bool) (hb : canBegin d = true) (hi : Inv d) :
    Inv (begin d a lim) := by
  have hnc := canBegin_not_complete hb
  unfold begin; dsimp only
  split
  · exact inv_finish hi rfl hnc rfl rfl rfl
  · next hlt =>
    refine hi.same_cache rfl (absurd · hnc) (fun _ => ⟨rfl, rfl, rfl, chunkOf_pos lim, ?_, ?_⟩)
      fun hc => by cases hc
    · dsimp only; omega
    · dsimp only; omega

/-- a download in the `receive_file` loop with bytes still missing (what `Inv` says of a running download, without
the cache) -/
structure Running (d : Dl) : Prop where
  st : d.st = .downloading
  bt : d.bt = d.loc.length
  chunk : 0 < d.chunk
  need : d.remaining - (d.received : Int) = (d.filesize : Int) - (d.loc.length : Int)
  more : d.loc.length < d.filesize

theorem Inv.toRunning {d : Dl} (hi : Inv d) (hs : d.st = .downloading) : Running d :=
  have ⟨hc, hlt, hn⟩ := hi.running hs
  ⟨hs, hi.bt_len hs, hc, hn, by omega⟩

/-- a cached record that restores to COMPLETE was saved COMPLETE, of a download that still is -/
theorem Inv.restores_complete {d : Dl} {s : Saved} (hi : Inv d) (hsv : d.saved = some s) (hc : s.restore = .complete) :
    d.st = .complete ∧ s.hasPath = true :=
  have hsc := complete_of_restore s (hi.saved_running s hsv) hc
  ⟨hi.saved_complete s hsv hsc, hi.saved_path s hsv hsc⟩

theorem inv_step (d : Dl) (op : Op) (h : Inv d) : Inv (step d op) := by
  cases op with
  | begin a lim => exact guarded (fun hb => inv_begin d a lim hb h) fun _ => h
  | beginCut a =>
    exact guarded (fun hb => h.stopped rfl (canBegin_not_complete hb) (by simp [beginCut]) (by simp [beginCut]))
      fun _ => h
  | seg bs => exact guarded (fun _ => inv_drain _ _ _ h) fun _ => h
  | eof =>
    exact guarded (fun hs => inv_finish h rfl (by simp [hs]) (h.bt_len hs) (h.size_ann hs) (h.path (Or.inl hs)))
      fun _ => h
  -- `err`, `pause`, `pauseWrite`, `queue`: out of a state the guard names, into INCOMPLETE, PAUSED or QUEUED
  | err => exact guarded (fun hs => h.stopped rfl (by simp [hs]) (by simp) (by simp)) fun _ => h
  | remote F => exact guarded (fun _ => h) fun _ => h.set_remote F
  | pause =>
    exact guarded (fun hs => h.stopped rfl (by simp [hs]) (by simp) (by simp)) fun _ =>
      guarded (fun hs => h.stopped rfl (by rcases hs with hs | hs <;> simp [hs]) (by simp) (by simp)) fun _ => h
  | pauseWrite bs => exact guarded (fun hs => h.stopped rfl (by simp [hs]) (by simp) (by simp)) fun _ => h
  | queue =>
    exact guarded (fun hs => h.stopped rfl (by rcases hs with hs | hs | hs <;> simp [hs]) (by simp) (by simp))
      fun _ => h
  | save =>
    -- the record written is that of `d`
    refine { h with saved_complete := ?saved_complete, saved_running := ?saved_running, saved_path := ?saved_path }
    case saved_complete => rintro _ ⟨⟩ hs; exact hs
    case saved_running =>
      rintro _ ⟨⟩ hs
      have hr := h.toRunning hs
      exact hr.bt ▸ hr.more
    case saved_path => rintro _ ⟨⟩ hs; exact h.path (Or.inr hs)
  | crash keep =>
    simp only [step]
    split
    · exact h
    · next s hsv =>
      -- the state restored is not DOWNLOADING: of the clauses about the download only those for COMPLETE say anything
      have hnd := restore_ne_downloading s
      refine { bt_len := fun hc => absurd hc hnd, size_ann := fun hc => absurd hc hnd,
               running := fun hc => absurd hc hnd, complete_size := fun hc => ?complete_size,
               path := fun hc => (h.restores_complete hsv (hc.resolve_left hnd)).2,
               saved_complete := fun s' hs1 hs2 => ?saved_complete,
               saved_running := h.saved_running, saved_path := h.saved_path }
      case complete_size =>
        -- COMPLETE before and after, with its path: the file is untouched
        obtain ⟨hdc, hp⟩ := h.restores_complete hsv hc
        have := h.complete_size hdc
        simp only [hp, if_true, hdc]
        simpa using this
      case saved_complete =>
        obtain rfl : s = s' := Option.some.inj (hsv.symm.trans hs1)
        exact restore_of_complete s hs2

theorem inv_run (ops : List Op) (d : Dl) (h : Inv d) : Inv (run d ops) :=
  List.foldlRecOn ops step h fun d h op _ => inv_step d op h

/-- an attempt has begun and was not cut short: `offset`, `ann` and `served` are those of an attempt that counts -/
abbrev Active (d : Dl) : Prop := d.st = .downloading ∨ d.st = .complete

/-- `d'` records the same attempt, against the same shared file -/
structure SameGhost (d d' : Dl) : Prop where
  offset : d'.offset = d.offset
  ann : d'.ann = d.ann
  served : d'.served = d.served
  remote : d'.remote = d.remote

theorem SameGhost.rfl {d : Dl} : SameGhost d d := ⟨Eq.refl _, Eq.refl _, Eq.refl _, Eq.refl _⟩

theorem SameGhost.trans {d d' d'' : Dl} (h : SameGhost d d') (h' : SameGhost d' d'') : SameGhost d d'' :=
  ⟨h'.offset.trans h.offset, h'.ann.trans h.ann, h'.served.trans h.served, h'.remote.trans h.remote⟩

theorem onRead_same (d : Dl) (data : Bytes) : SameGhost d (onRead d data) := by
  rw [onRead_def]; split <;> exact ⟨rfl, rfl, rfl, rfl⟩

theorem drain_same (fuel : Nat) (d : Dl) (buf : Bytes) : SameGhost d (drain fuel d buf) := by
  fun_induction drain fuel d buf with
  | case1 => exact .rfl
  | case2 => exact .rfl
  | case3 _ d buf _ ih => exact (onRead_same d _).trans ih

theorem drain_filesize (fuel : Nat) : ∀ (d : Dl) (buf : Bytes),
    (drain fuel d buf).filesize = d.filesize := by
  intro d buf
  fun_induction drain fuel d buf with
  | case1 => rfl
  | case2 => rfl
  | case3 _ d buf _ ih => rw [ih, onRead_filesize]

theorem drain_loc (fuel : Nat) (d : Dl) (buf : Bytes) : ∃ k, (drain fuel d buf).loc = d.loc ++ buf.take k := by
  fun_induction drain fuel d buf with
  | case1 => exact ⟨0, by simp⟩
  | case2 => exact ⟨0, by simp⟩
  | case3 _ d buf _ ih =>
    obtain ⟨k, hk⟩ := ih
    exact ⟨d.chunk + k, by rw [hk, onRead_loc, List.take_add, List.append_assoc]⟩

/-- What a step does to the projections that the invariants about the sender read: the local file, the shared file,
and the record of the attempt (`offset`, `ann`, `served`) as long as the state says that it counts. -/
inductive Effect (d : Dl) : Op → Dl → Prop
  /-- nothing written, nothing begun: the local file may lose its end (crash); an attempt that still counts
  counted before, and nothing of it changed -/
  | calm {op d'} (loc : d'.loc <+: d.loc) (remote : d'.remote = d.remote)
      (att : Active d' → Active d ∧ d'.loc = d.loc ∧ SameGhost d d') : Effect d op d'
  | began {a lim d'} (loc : d'.loc = d.loc) (remote : d'.remote = d.remote) (offset : d'.offset = d.loc.length)
      (ann : d'.ann = a) (served : d'.served = d.remote) : Effect d (.begin a lim) d'
  | seg {bs d'} (k : Nat) (running : d.st = .downloading) (loc : d'.loc = d.loc ++ bs.take k)
      (same : SameGhost d d') : Effect d (.seg bs) d'
  | pauseWrite {bs d'} (k : Nat) (running : d.st = .downloading) (loc : d'.loc = d.loc ++ bs.take k)
      (remote : d'.remote = d.remote) (stopped : ¬Active d') : Effect d (.pauseWrite bs) d'
  | remote {G d'} (notRunning : d.st ≠ .downloading) (eq : d' = { d with remote := G }) : Effect d (.remote G) d'

theorem Effect.idle {d d' : Dl} {op : Op} (loc : d'.loc = d.loc) (remote : d'.remote = d.remote)
    (h1 : d'.st ≠ .downloading) (h2 : d'.st ≠ .complete) : Effect d op d' :=
  .calm (loc ▸ List.prefix_refl _) remote fun h => h.elim (absurd · h1) (absurd · h2)

theorem Effect.same {d d' : Dl} {op : Op} (loc : d'.loc = d.loc) (same : SameGhost d d') (h : Active d' → Active d) :
    Effect d op d' :=
  .calm (loc ▸ List.prefix_refl _) same.remote fun a => ⟨h a, loc, same⟩

theorem step_effect (d : Dl) (op : Op) (hi : Inv d) : Effect d op (step d op) := by
  have noop : Effect d op d := .same rfl .rfl id
  cases op with
  | begin a lim =>
    refine guarded (fun _ => ?_) fun _ => noop
    unfold begin; dsimp only
    split <;> exact .began rfl rfl rfl rfl rfl
  | beginCut a => exact guarded (fun _ => .idle rfl rfl (by simp [beginCut]) (by simp [beginCut])) fun _ => noop
  | seg bs =>
    refine guarded (fun hs => ?_) fun _ => noop
    obtain ⟨k, hk⟩ := drain_loc bs.length d bs
    exact .seg k hs hk (drain_same _ _ _)
  | eof => exact guarded (fun hs => .same rfl ⟨rfl, rfl, rfl, rfl⟩ fun _ => Or.inl hs) fun _ => noop
  | err => exact guarded (fun _ => .idle rfl rfl (by simp) (by simp)) fun _ => noop
  | remote G => exact guarded (fun _ => noop) fun hs => .remote hs rfl
  | pause =>
    exact guarded (fun _ => .idle rfl rfl (by simp) (by simp)) fun _ =>
      guarded (fun _ => .idle rfl rfl (by simp) (by simp)) fun _ => noop
  | pauseWrite bs => exact guarded (fun hs => .pauseWrite d.chunk hs rfl rfl (by simp [Active])) fun _ => noop
  | queue => exact guarded (fun _ => .idle rfl rfl (by simp) (by simp)) fun _ => noop
  | save => exact .same rfl ⟨rfl, rfl, rfl, rfl⟩ id
  | crash keep =>
    simp only [step]
    split
    · exact noop
    · next s hsv =>
      refine .calm ?_ rfl fun a => ?_
      · split
        · split
          · exact List.take_prefix _ _
          · exact List.prefix_refl _
        · exact List.nil_prefix
      · obtain ⟨hdc, hp⟩ := hi.restores_complete hsv (a.resolve_left (restore_ne_downloading s))
        exact ⟨Or.inr hdc, by simp [hp, hdc], ⟨rfl, rfl, rfl, rfl⟩⟩

/-- `H` restricts a history op by op (`Honest F`, `HonestV`, `HonestV` and `Grows`) -/
theorem run_ind {H : Dl → List Op → Prop} {P : Dl → Prop}
    (hH : ∀ d op ops, H d (op :: ops) → H (step d op) ops)
    (hP : ∀ d op ops d', Effect d op d' → P d → H d (op :: ops) → P d') :
    ∀ ops d, Inv d → P d → H d ops → P (run d ops)
  | [], _, _, h, _ => h
  | op :: ops, d, hi, h, hh =>
    run_ind hH hP ops _ (inv_step d op hi) (hP d op ops _ (step_effect d op hi) h hh) (hH d op ops hh)

theorem prefix_drop {F loc : Bytes} (h : loc <+: F) : loc ++ F.drop loc.length = F := by
  obtain ⟨t, rfl⟩ := h
  simp

theorem append_prefix {loc served R x : Bytes} (h1 : loc <+: R) (h2 : served <+: R)
    (hx : x <+: served.drop loc.length) : loc ++ x <+: R := by
  by_cases hl : loc.length ≤ served.length
  · have hp : loc <+: served := List.prefix_of_prefix_length_le h1 h2 hl
    rw [← prefix_drop hp] at h2
    exact ((List.prefix_append_right_inj loc).mpr hx).trans h2
  · rw [List.drop_of_length_le (by omega)] at hx
    rw [List.prefix_nil.mp hx, List.append_nil]
    exact h1

theorem drop_append_prefix {loc served x : Bytes} {off : Nat} (ho : off ≤ loc.length)
    (h : loc.drop off <+: served.drop off) (hx : x <+: served.drop loc.length) :
    (loc ++ x).drop off <+: served.drop off := by
  rw [List.drop_append_of_le_length ho]
  refine append_prefix h (List.prefix_refl _) ?_
  rwa [List.drop_drop, List.length_drop, Nat.add_sub_cancel' ho]

/-- invariant of runs against an honest uploader of a file `F` that does not change -/
structure HInv (F : Bytes) (d : Dl) : Prop where
  pre : d.loc <+: F
  size : Active d → d.ann = F.length

theorem hinv_effect (F : Bytes) (d : Dl) (op : Op) (ops : List Op) (d' : Dl) (e : Effect d op d') (h : HInv F d)
    (hon : Honest F d (op :: ops)) : HInv F d' := by
  cases e with
  | calm loc _ att => exact ⟨loc.trans h.pre, fun a => (att a).2.2.ann ▸ h.size (att a).1⟩
  | began loc _ _ ann _ => exact ⟨loc ▸ h.pre, fun _ => ann.trans hon.1⟩
  | seg k hrun loc same =>
    exact ⟨loc ▸ append_prefix h.pre (List.prefix_refl F) ((List.take_prefix k _).trans (hon.1 hrun)),
           fun _ => same.ann ▸ h.size (Or.inl hrun)⟩
  | pauseWrite k hrun loc _ hstop =>
    exact ⟨loc ▸ append_prefix h.pre (List.prefix_refl F) ((List.take_prefix k _).trans (hon.1 hrun)),
           fun a => absurd a hstop⟩
  | remote _ eq => subst eq; exact ⟨h.pre, h.size⟩

theorem hinv_run (F : Bytes) : ∀ ops d, Inv d → HInv F d → Honest F d ops → HInv F (run d ops) :=
  run_ind (fun _ _ _ h => h.2) (hinv_effect F)

theorem init_loc_prefix (pre : Bytes) (hp : Bool) : (Dl.init pre hp).loc <+: pre := by
  cases hp
  · exact List.nil_prefix
  · exact List.prefix_refl pre

theorem hinv_init (F pre : Bytes) (hp : Bool) (h : pre <+: F) : HInv F (Dl.init pre hp) :=
  ⟨(init_loc_prefix pre hp).trans h, fun a => a.elim DState.noConfusion DState.noConfusion⟩

theorem honest_reach {F pre : Bytes} {ops : List Op} (hpre : pre <+: F) (hon : Honest F (Dl.init pre) ops) :
    Inv (run (Dl.init pre) ops) ∧ HInv F (run (Dl.init pre) ops) :=
  ⟨inv_run ops _ (inv_init pre true), hinv_run F ops _ (inv_init pre true) (hinv_init F pre true hpre) hon⟩

theorem HInv.complete_exact {F : Bytes} {d : Dl} (hh : HInv F d) (hi : Inv d) (hc : d.st = .complete) : d.loc = F :=
  hh.pre.eq_of_length ((hi.complete_size hc).trans (hh.size (Or.inr hc)))

/-- the attempt that began last: what it appended continues the file it was served from -/
def AInv (d : Dl) : Prop :=
  Active d → d.offset ≤ d.loc.length ∧ d.loc.drop d.offset <+: d.served.drop d.offset ∧ d.ann = d.served.length

theorem ainv_effect (d : Dl) (op : Op) (ops : List Op) (d' : Dl) (e : Effect d op d') (h : AInv d)
    (hon : HonestV d (op :: ops)) : AInv d' := by
  cases e with
  | calm _ _ att =>
    intro a
    obtain ⟨a', loc, same⟩ := att a
    rw [loc, same.offset, same.ann, same.served]
    exact h a'
  | began loc _ offset ann served =>
    intro _
    rw [loc, offset, ann, served]
    exact ⟨Nat.le_refl _, by simp, hon.1⟩
  | seg k hrun loc same =>
    intro _
    obtain ⟨h1, h2, h3⟩ := h (Or.inl hrun)
    rw [loc, same.offset, same.ann, same.served]
    exact ⟨by simp only [List.length_append]; omega,
           drop_append_prefix h1 h2 ((List.take_prefix k _).trans (hon.1 hrun)), h3⟩
  | pauseWrite _ _ _ _ hstop => exact fun a => absurd a hstop
  | remote _ eq => subst eq; exact h

theorem ainv_init (pre : Bytes) (hp : Bool) (F : Bytes) : AInv { Dl.init pre hp with remote := F } :=
  fun a => a.elim DState.noConfusion DState.noConfusion

theorem ainv_run : ∀ ops d, Inv d → AInv d → HonestV d ops → AInv (run d ops) :=
  run_ind (fun _ _ _ h => h.2) ainv_effect

theorem AInv.complete_served {d : Dl} (ha : AInv d) (hi : Inv d) (hc : d.st = .complete) :
    d.loc.length = d.served.length ∧ d.loc.drop d.offset = d.served.drop d.offset := by
  obtain ⟨_, h2, h3⟩ := ha (Or.inr hc)
  have h4 := hi.complete_size hc
  refine ⟨h4.trans h3, h2.eq_of_length ?_⟩
  rw [List.length_drop, List.length_drop, h4, h3]

/-- invariant of runs in which the shared file changes only by growing at its end: the local file and the file of
the last attempt are both prefixes of the shared file as it is now -/
structure GInv (d : Dl) : Prop where
  pre : d.loc <+: d.remote
  srv : Active d → d.served <+: d.remote

theorem ginv_effect (d : Dl) (op : Op) (ops : List Op) (d' : Dl) (e : Effect d op d') (h : GInv d)
    (hon : HonestV d (op :: ops) ∧ Grows d (op :: ops)) : GInv d' := by
  cases e with
  | calm loc remote att =>
    refine ⟨remote ▸ loc.trans h.pre, fun a => ?_⟩
    rw [(att a).2.2.served, remote]
    exact h.srv (att a).1
  | began loc remote _ _ served =>
    refine ⟨?_, fun _ => ?_⟩
    · rw [loc, remote]; exact h.pre
    · rw [served, remote]; exact List.prefix_refl _
  | seg k hrun loc same =>
    have hs := h.srv (Or.inl hrun)
    have hp := append_prefix h.pre hs ((List.take_prefix k _).trans (hon.1.1 hrun))
    rw [← same.remote, ← loc] at hp
    exact ⟨hp, fun _ => same.served ▸ same.remote ▸ hs⟩
  | pauseWrite k hrun loc remote hstop =>
    have hp := append_prefix h.pre (h.srv (Or.inl hrun)) ((List.take_prefix k _).trans (hon.1.1 hrun))
    rw [← remote, ← loc] at hp
    exact ⟨hp, fun a => absurd a hstop⟩
  | remote _ eq => subst eq; exact ⟨h.pre.trans hon.2.1, fun a => (h.srv a).trans hon.2.1⟩

theorem ginv_init (pre F : Bytes) (hp : Bool) (h : pre <+: F) : GInv { Dl.init pre hp with remote := F } :=
  ⟨(init_loc_prefix pre hp).trans h, fun a => a.elim DState.noConfusion DState.noConfusion⟩

theorem ginv_run : ∀ ops d, Inv d → GInv d → HonestV d ops ∧ Grows d ops → GInv (run d ops) :=
  run_ind (fun _ _ _ h => ⟨h.1.2, h.2.2⟩) ginv_effect

theorem GInv.complete_exact {d : Dl} (hg : GInv d) (ha : AInv d) (hi : Inv d) (hc : d.st = .complete) :
    d.loc = d.served :=
  have hl := (hi.complete_size hc).trans (ha (Or.inr hc)).2.2
  (List.prefix_of_prefix_length_le hg.pre (hg.srv (Or.inr hc)) (Nat.le_of_eq hl)).eq_of_length hl

/-- `d'` is `d` after the bytes `x`, not more than were missing, have been read and written: still running while
bytes are missing, COMPLETE and disconnected when the last one is in -/
structure Fed (d : Dl) (x : Bytes) (d' : Dl) : Prop where
  loc : d'.loc = d.loc ++ x
  filesize : d'.filesize = d.filesize
  more : d.loc.length + x.length < d.filesize → Running d'
  done : d.loc.length + x.length = d.filesize → d'.st = .complete ∧ d'.closed = true

theorem Fed.nil {d : Dl} (hr : Running d) : Fed d [] d :=
  ⟨(List.append_nil _).symm, rfl, fun _ => hr, fun h => absurd hr.more (by simp at h; omega)⟩

theorem Fed.append {d d₁ d₂ : Dl} {x y : Bytes} (h₁ : Fed d x d₁)
    (hle : d.loc.length + x.length + y.length ≤ d.filesize)
    (h₂ : Running d₁ → Fed d₁ y d₂) (hstop : d₁.st ≠ .downloading → d₂ = d₁) :
    Fed d (x ++ y) d₂ := by
  by_cases hx : d.loc.length + x.length < d.filesize
  · have h₂ := h₂ (h₁.more hx)
    have e : d₁.loc.length + y.length = d.loc.length + (x ++ y).length := by
      rw [h₁.loc]; simp only [List.length_append]; omega
    refine ⟨by rw [h₂.loc, h₁.loc, List.append_assoc], h₂.filesize.trans h₁.filesize,
            fun h => ?_, fun h => ?_⟩
    · exact h₂.more (by rw [e, h₁.filesize]; exact h)
    · exact h₂.done (by rw [e, h₁.filesize]; exact h)
  · have hd := h₁.done (by omega)
    obtain rfl : y = [] := List.eq_nil_of_length_eq_zero (by omega)
    rw [hstop (by rw [hd.1]; exact DState.noConfusion), List.append_nil]
    exact h₁

theorem begin_complete (d : Dl) (lim : Bool) :
    (begin d d.loc.length lim).st = .complete ∧ (begin d d.loc.length lim).loc = d.loc ∧
    (begin d d.loc.length lim).closed = true := by
  unfold begin; dsimp only
  rw [if_pos (by omega)]
  simp [finish]

theorem begin_running (d : Dl) {a : Nat} (lim : Bool) (h : d.loc.length < a) :
    Running (begin d a lim) ∧ (begin d a lim).loc = d.loc ∧ (begin d a lim).filesize = a := by
  unfold begin; dsimp only
  rw [if_neg (by omega)]
  exact ⟨⟨rfl, rfl, chunkOf_pos lim, by dsimp only; omega, h⟩, rfl, rfl⟩

theorem onRead_fed {d : Dl} (data : Bytes) (hr : Running d) :
    Fed d data (onRead d data) := by
  have hn := hr.need
  refine ⟨onRead_loc d data, onRead_filesize d data, fun h => ?_, fun h => ?_⟩
  · rw [onRead_def, if_neg (by omega)]
    exact ⟨hr.st, by simp [wrote, hr.bt], hr.chunk, by simp only [wrote, List.length_append]; omega,
           by simp only [wrote, List.length_append]; omega⟩
  · rw [onRead_def, if_pos (by omega)]
    have : (wrote d data).filesize = (wrote d data).bt := by simp only [wrote, hr.bt]; omega
    simp [finish, this]

theorem drain_fed (fuel : Nat) : ∀ (d : Dl) (buf : Bytes), Running d → buf.length ≤ fuel →
    d.loc.length + buf.length ≤ d.filesize → Fed d buf (drain fuel d buf) := by
  induction fuel with
  | zero =>
    intro d buf hr hf _
    obtain rfl : buf = [] := List.eq_nil_of_length_eq_zero (by omega)
    exact .nil hr
  | succ n ih =>
    intro d buf hr hf hle
    by_cases hb : buf = []
    · rw [hb, drain_nil]; exact .nil hr
    · have hpos := List.length_pos_iff.mpr hb
      have hc := hr.chunk
      have ht : (buf.take d.chunk).length + (buf.drop d.chunk).length = buf.length := by
        rw [← List.length_append, List.take_append_drop]
      have htp : 0 < (buf.take d.chunk).length := by rw [List.length_take]; omega
      have := (onRead_fed (buf.take d.chunk) hr).append (y := buf.drop d.chunk) (by omega)
        (fun hr₁ => ih _ _ hr₁ (by omega) (by rw [onRead_loc, onRead_filesize, List.length_append]; omega))
        (drain_not_downloading n _ _)
      rwa [List.take_append_drop, ← drain_succ n d buf hr.st hb] at this

theorem run_not_downloading_segs (segs : List Bytes) (d : Dl) (h : d.st ≠ .downloading) :
    run d (segs.map .seg) = d := by
  induction segs with
  | nil => rfl
  | cons s segs ih =>
    simp only [List.map_cons, run, List.foldl_cons, step, h, if_false]
    exact ih

theorem run_segs_fed (segs : List Bytes) : ∀ d : Dl, Running d →
    d.loc.length + segs.flatten.length ≤ d.filesize → Fed d segs.flatten (run d (segs.map .seg)) := by
  induction segs with
  | nil => intro d hr _; exact .nil hr
  | cons s segs ih =>
    intro d hr hle
    simp only [List.flatten_cons, List.length_append] at hle
    have hrun : run d ((s :: segs).map .seg) = run (drain s.length d s) (segs.map .seg) := by
      simp only [List.map_cons, run, List.foldl_cons, step, hr.st, if_true]
    rw [hrun, List.flatten_cons]
    have hd := drain_fed s.length d s hr (Nat.le_refl _) (by omega)
    exact hd.append (by omega)
      (fun hr₁ => ih _ hr₁ (by rw [hd.loc, drain_filesize, List.length_append]; omega))
      (run_not_downloading_segs segs _)

theorem seg_honest {F : Bytes} {d : Dl} (hi : Inv d) (hh : HInv F d) (hs : d.st = .downloading) {bs : Bytes}
    (hbs : bs <+: F.drop d.loc.length) :
    (step d (.seg bs)).loc = d.loc ++ bs ∧ (d.loc ++ bs = F → (step d (.seg bs)).st = .complete) ∧
    (d.loc ++ bs ≠ F → (step d (.seg bs)).st = .downloading) := by
  have hfs : d.filesize = F.length := (hi.size_ann hs).trans (hh.size (Or.inl hs))
  have hp : d.loc ++ bs <+: F := append_prefix hh.pre (List.prefix_refl F) hbs
  have hle := hp.length_le
  rw [List.length_append, ← hfs] at hle
  have h := drain_fed bs.length d bs (hi.toRunning hs) (Nat.le_refl _) hle
  simp only [step, hs, if_true]
  refine ⟨h.loc, fun hall => (h.done ?_).1, fun hnot => (h.more ?_).st⟩
  · rw [hfs, ← hall, List.length_append]
  · have : (d.loc ++ bs).length ≠ F.length := fun e => hnot (hp.eq_of_length e)
    rw [List.length_append, ← hfs] at this
    omega

theorem flatten_nil_of_length {segs : List Bytes} (h : segs.flatten.length = 0) : ∀ s ∈ segs, s = [] := by
  intro s hs
  have : segs.flatten = [] := List.eq_nil_of_length_eq_zero h
  exact (List.flatten_eq_nil_iff.mp this) s hs

structure UInv (F : Bytes) (u : Ul) : Prop where
  fs : u.filesize = F.length
  pos : u.st ≠ .queued → u.pos = u.offset + u.sent.length
  bt : u.st ≠ .queued → u.bt = u.offset + u.sent.length
  sent : u.sent <+: F.drop u.offset
  closed : u.st = .complete → u.peerClosed = true
  complete : u.st = .complete → u.filesize = u.bt
  chunk : 0 < u.chunk

theorem uinv_init (F : Bytes) : UInv F (Ul.init F) :=
  ⟨rfl, fun h => absurd rfl h, fun h => absurd rfl h, List.nil_prefix, UState.noConfusion, UState.noConfusion,
   chunkOf_pos false⟩

theorem UInv.set_st {F : Bytes} {u : Ul} (h : UInv F u) (st : UState) (peerClosed notifying : Bool) (puf : Nat)
    (hq : st ≠ .queued → u.st ≠ .queued) (hc : st = .complete → peerClosed = true ∧ u.filesize = u.bt) :
    UInv F { u with st, peerClosed, notifying, puf } :=
  ⟨h.fs, fun a => h.pos (hq a), fun a => h.bt (hq a), h.sent, fun a => (hc a).1, fun a => (hc a).2, h.chunk⟩

theorem uinv_step (F : Bytes) (u : Ul) (op : UOp) (h : UInv F u) : UInv F (ustep F u op) := by
  cases op with
  | begin off lim =>
    exact guarded (fun _ => ⟨h.fs, fun _ => rfl, fun _ => rfl, List.nil_prefix, UState.noConfusion,
      UState.noConfusion, chunkOf_pos lim⟩) fun _ => h
  | chunk =>
    refine guarded (fun hs => ?_) fun _ => h
    have hq : u.st ≠ .queued := by simp [hs]
    refine guarded (fun _ => h.set_st _ _ _ _ (fun _ => hq) UState.noConfusion) fun _ => ?_
    have hp := h.pos hq
    have hb := h.bt hq
    refine ⟨h.fs, fun _ => ?_, fun _ => ?_, ?_, (fun hc => by simp [hs] at hc),
            (fun hc => by simp [hs] at hc), h.chunk⟩
    · simp only [List.length_append]; omega
    · simp only [List.length_append]; omega
    · -- the handle stands where the bytes sent so far end
      refine append_prefix h.sent (List.prefix_refl _) ?_
      rw [List.drop_drop, ← hp]
      exact List.take_prefix _ _
  | werr => exact guarded (fun hs => h.set_st _ _ _ _ (fun _ => by simp [hs]) UState.noConfusion) fun _ => h
  | closed =>
    refine guarded (fun hs => h.set_st _ _ _ _ (fun _ => by simp [hs]) fun hc => ⟨rfl, ?_⟩) fun _ => h
    by_cases he : u.filesize = u.bt
    · exact he
    · simp [he] at hc
  | rerr => exact guarded (fun hs => h.set_st _ _ _ _ (fun _ => by simp [hs]) UState.noConfusion) fun _ => h
  | told => exact guarded (fun _ => h.set_st _ _ _ _ id fun hc => ⟨h.closed hc, h.complete hc⟩) fun _ => h
  | untold =>
    refine guarded (fun _ => ?_) fun _ => h
    by_cases hf : u.st = .failed
    · simp only [hf, if_true]
      exact h.set_st _ _ _ _ (absurd rfl) UState.noConfusion
    · simp only [hf, if_false]
      exact h.set_st _ _ _ _ id fun hc => ⟨h.closed hc, h.complete hc⟩
  | requeue => exact guarded (fun _ => h.set_st _ _ _ _ (absurd rfl) UState.noConfusion) fun _ => h

theorem uinv_run (F : Bytes) (ops : List UOp) (u : Ul) (h : UInv F u) : UInv F (urun F u ops) :=
  List.foldlRecOn ops (ustep F) h fun u h op _ => uinv_step F u op h

theorem UInv.complete_sent {F : Bytes} {u : Ul} (hi : UInv F u) (hc : u.st = .complete) :
    u.sent = F.drop u.offset ∧ u.peerClosed = true := by
  refine ⟨hi.sent.eq_of_length ?_, hi.closed hc⟩
  have h1 := hi.bt (by rw [hc]; exact UState.noConfusion)
  have h2 := hi.complete hc
  have h3 := hi.fs
  rw [List.length_drop]
  omega

/-- the notification of a failed upload: while `PeerUploadFailed` is being sent the upload has left UPLOADING -/
def NInv (u : Ul) : Prop := u.notifying = true → u.st = .failed ∨ u.st = .queued

theorem NInv.quiet {u : Ul} (h : NInv u) (hs : u.st = .sending ∨ u.st = .awaitEof) : u.notifying = false :=
  Bool.eq_false_iff.mpr fun hn => by
    -- FAILED and QUEUED are neither of the two states of `hs`
    have hne : u.st ≠ .sending ∧ u.st ≠ .awaitEof := by
      rcases h hn with e | e <;> rw [e] <;> exact ⟨nofun, nofun⟩
    exact hs.elim hne.1 hne.2

theorem ninv_step (F : Bytes) (u : Ul) (op : UOp) (h : NInv u) : NInv (ustep F u op) := by
  have quiet {u' : Ul} (hs : u.st = .sending ∨ u.st = .awaitEof) (e : u'.notifying = u.notifying) : NInv u' :=
    fun x => absurd ((h.quiet hs).symm.trans (e.symm.trans x)) Bool.noConfusion
  cases op with
  | begin off lim => exact guarded (fun hc hn => absurd (hc.2.symm.trans hn) Bool.noConfusion) fun _ => h
  | chunk => exact guarded (fun hs => guarded (fun _ => quiet (.inl hs) rfl) fun _ => quiet (.inl hs) rfl) fun _ => h
  | werr => exact guarded (fun _ _ => Or.inl rfl) fun _ => h
  | closed => exact guarded (fun hs => quiet (.inr hs) rfl) fun _ => h
  | rerr => exact guarded (fun _ _ => Or.inl rfl) fun _ => h
  | told => exact guarded (fun _ => Bool.noConfusion) fun _ => h
  | untold => exact guarded (fun _ => Bool.noConfusion) fun _ => h
  | requeue => exact guarded (fun _ _ => Or.inr rfl) fun _ => h

theorem ninv_run (F : Bytes) (ops : List UOp) : NInv (urun F (Ul.init F) ops) :=
  List.foldlRecOn ops (ustep F) (Bool.noConfusion : NInv (Ul.init F)) fun u h op _ => ninv_step F u op h

theorem urun_chunks_not_sending (F : Bytes) (n : Nat) (u : Ul) (h : u.st ≠ .sending) :
    urun F u (List.replicate n .chunk) = u := by
  induction n with
  | zero => rfl
  | succ n ih =>
    simp only [List.replicate_succ, urun, List.foldl_cons, ustep, h, if_false]
    exact ih

theorem urun_chunks_eof (F : Bytes) (n : Nat) (u : Ul) (hs : u.st = .sending) (hp : F.length ≤ u.pos) :
    urun F u (List.replicate (n + 1) .chunk) = { u with st := .awaitEof } := by
  have hd : (F.drop u.pos).take u.chunk = [] := by rw [List.drop_of_length_le hp, List.take_nil]
  rw [List.replicate_succ, urun, List.foldl_cons]
  simp only [ustep, hs, if_true, hd]
  exact urun_chunks_not_sending F n _ UState.noConfusion

/-- `n` iterations for the bytes, one more to see the end: the EOF wait, with the handle at the end of the file -/
theorem urun_chunks (F : Bytes) (n : Nat) : ∀ (u : Ul), u.st = .sending → 0 < u.chunk → u.pos ≤ F.length →
    F.length - u.pos ≤ n * u.chunk →
    (urun F u (List.replicate (n + 1) .chunk)).st = .awaitEof ∧
    (urun F u (List.replicate (n + 1) .chunk)).pos = F.length := by
  induction n with
  | zero =>
    intro u hs _ hp hn
    rw [Nat.zero_mul] at hn
    rw [urun_chunks_eof F 0 u hs (by omega)]
    exact ⟨rfl, by dsimp only; omega⟩
  | succ n ih =>
    intro u hs hc hp hn
    by_cases he : F.length ≤ u.pos
    · rw [urun_chunks_eof F _ u hs he]
      exact ⟨rfl, Nat.le_antisymm hp he⟩
    · have hlen : ((F.drop u.pos).take u.chunk).length = min u.chunk (F.length - u.pos) := by
        rw [List.length_take, List.length_drop]
      have hd : (F.drop u.pos).take u.chunk ≠ [] := List.ne_nil_of_length_pos (by omega)
      rw [List.replicate_succ, urun, List.foldl_cons]
      simp only [ustep, hs, if_true, hd, if_false]
      rw [Nat.succ_mul] at hn
      exact ih _ rfl hc (by dsimp only; omega) (by dsimp only; omega)

theorem upload_completes {F : Bytes} {u : Ul} (hi : UInv F u) (off n : Nat) (lim : Bool)
    (hb : (u.st = .queued ∨ u.st = .failed ∨ u.st = .complete) ∧ u.notifying = false)
    (hoff : off ≤ F.length) (hn : F.length - off + chunkOf lim ≤ n * chunkOf lim) :
    (urun F u (.begin off lim :: List.replicate n .chunk ++ [.closed])).st = .complete := by
  have hc := chunkOf_pos lim
  -- `n` is not 0; all iterations but the last are for the bytes
  cases n with
  | zero => omega
  | succ m =>
    rw [Nat.succ_mul] at hn
    have hbeg : ustep F u (.begin off lim) = ubegin u off lim := by
      simp only [ustep]; rw [if_pos hb]
    have hi' := uinv_run F (List.replicate (m + 1) .chunk) _ (uinv_step F u (.begin off lim) hi)
    rw [hbeg] at hi'
    obtain ⟨g1, g2⟩ := urun_chunks F m (ubegin u off lim) rfl hc hoff
      (show F.length - off ≤ m * chunkOf lim by omega)
    have hne : (urun F (ubegin u off lim) (List.replicate (m + 1) .chunk)).st ≠ .queued := by
      rw [g1]; exact UState.noConfusion
    have hrun : urun F u (.begin off lim :: List.replicate (m + 1) .chunk ++ [.closed]) =
        ustep F (urun F (ustep F u (.begin off lim)) (List.replicate (m + 1) .chunk)) .closed := by
      simp only [urun, List.cons_append, List.foldl_cons, List.foldl_append, List.foldl_nil]
    rw [hrun, hbeg]
    simp only [ustep, g1, if_true]
    rw [if_pos]
    -- the counter follows the handle (`UInv`), which stands at the end of the file
    rw [hi'.fs, hi'.bt hne, ← hi'.pos hne, g2]

namespace Wire

theorem leBytes_length (w : Nat) : ∀ n, (leBytes w n).length = w := by
  induction w with
  | zero => intro n; rfl
  | succ w ih => intro n; simp [leBytes, ih]

theorem leVal_leBytes (w : Nat) : ∀ n, leVal (leBytes w n) = n % 256 ^ w := by
  induction w with
  | zero => intro n; simp [leBytes, leVal, Nat.mod_one]
  | succ w ih =>
    intro n
    simp only [leBytes, leVal, ih]
    rw [Nat.pow_succ, Nat.mul_comm (256 ^ w) 256, Nat.mod_mul]
    congr 1
    simp

theorem take_leBytes (d : Nat) : ∀ w n, d ≤ w → (leBytes w n).take d = leBytes d n := by
  induction d with
  | zero => intro w n _; simp [leBytes]
  | succ d ih =>
    intro w n h
    cases w with
    | zero => omega
    | succ w => simp only [leBytes, List.take_succ_cons, ih w (n / 256) (by omega)]

theorem recvValue_wait (read dec : Nat) (s : Bytes) (h : s.length < read) : recvValue read dec s = none := by
  simp [recvValue, h]

theorem recvValue_narrow (w d n : Nat) (rest : Bytes) (hd : d ≤ w) :
    recvValue w d (leBytes w n ++ rest) = some (n % 256 ^ d, rest) := by
  have hl := leBytes_length w n
  rw [recvValue, if_neg (by simp only [List.length_append, hl]; omega), List.take_left' hl, List.drop_left' hl,
    take_leBytes d w n hd, leVal_leBytes]

theorem recvValue_exact (w n : Nat) (rest : Bytes) (h : n < 256 ^ w) :
    recvValue w w (leBytes w n ++ rest) = some (n, rest) ∧ ∀ s : Bytes, s.length < w → recvValue w w s = none :=
  ⟨by rw [recvValue_narrow w w n rest (Nat.le_refl w), Nat.mod_eq_of_lt h], recvValue_wait w w⟩

theorem recvValue_narrow_wrong (w d : Nat) (hd : d < w) :
    256 ^ d < 256 ^ w ∧ recvValue w d (leBytes w (256 ^ d)) ≠ some (256 ^ d, []) := by
  refine ⟨Nat.pow_lt_pow_right (by omega) hd, fun hc => ?_⟩
  have h := recvValue_narrow w d (256 ^ d) [] (by omega)
  rw [List.append_nil, hc, Nat.mod_self] at h
  have h0 : 256 ^ d = 0 := (Prod.mk.inj (Option.some.inj h)).1
  exact absurd h0 (Nat.pos_iff_ne_zero.mp (Nat.pow_pos (by omega)))

end Wire

namespace Ctl

theorem settleU_mono (l : List ToU) : ∀ h, settleU false l = true → settleU h l = true := by
  induction l with
  | nil => intro h hh; simp [settleU] at hh
  | cons m r ih =>
    intro h hh
    cases m
    · simpa [settleU] using hh
    · simp only [settleU] at hh ⊢; exact ih _ hh
    · simpa [settleU] using hh

theorem settleU_ptq (l : List ToU) : ∀ h, settleU h (l ++ [.ptq]) = true := by
  induction l with
  | nil => intro h; simp [settleU]
  | cons m r ih => intro h; cases m <;> simp only [List.cons_append, settleU] <;> exact ih _

theorem settleU_replyOk (l : List ToU) : ∀ h, settleU h (l ++ [.replyOk]) = settleU h l := by
  induction l with
  | nil => intro h; simp [settleU]
  | cons m r ih => intro h; cases m <;> simp only [List.cons_append, settleU] <;> exact ih _

/-- Prop form of `invB` -/
structure Inv (s : S) : Prop where
  held : retryable s.d = true → s.rq = true → settleU (uHolds s.u) s.toU = true ∨ .puf ∈ s.toD
  running : s.d = .downloading → s.rq = false

theorem inv_init : Inv S.init := ⟨fun _ => Bool.noConfusion, D.noConfusion⟩

theorem Inv.invB {s : S} (h : Inv s) : invB s = true := by
  simp only [Ctl.invB, Bool.and_eq_true, Bool.or_eq_true, List.contains_iff_mem, Bool.not_eq_true',
    Bool.and_eq_false_imp, decide_eq_false_iff_not]
  show (((retryable s.d = true → s.rq = false) ∨ settleU (uHolds s.u) s.toU = true) ∨ .puf ∈ s.toD) ∧
    (¬s.d = .downloading ∨ s.rq = false)
  refine ⟨?_, Decidable.not_or_of_imp h.running⟩
  -- the first disjunct when the download does not wait, `h.held` for the other two when it does
  by_cases hw : retryable s.d = true ∧ s.rq = true
  · exact (h.held hw.1 hw.2).elim (fun a => .inl (.inr a)) .inr
  · exact .inl (.inl fun hr => Bool.eq_false_iff.mpr fun hq => hw ⟨hr, hq⟩)

theorem uHolds_or (u : U) : uHolds u = true ∨ (u = .none ∨ u = .failed ∨ u = .refused ∨ u = .complete) := by
  cases u <;> decide

theorem Inv.of_idle {s : S} (hw : retryable s.d = false ∨ s.rq = false) (hr : s.d = .downloading → s.rq = false) :
    Inv s :=
  ⟨fun a b => hw.elim (fun h => absurd (h.symm.trans a) Bool.noConfusion)
     (fun h => absurd (h.symm.trans b) Bool.noConfusion), hr⟩

theorem Inv.of_u {s : S} (h : Inv s) (u : U) (toU : List ToU)
    (hu : settleU (uHolds s.u) s.toU = true → settleU (uHolds u) toU = true) : Inv { s with u, toU } :=
  ⟨fun a b => (h.held a b).imp hu id, h.running⟩

theorem inv_step (s : S) (op : Op) (h : Inv s) : Inv (step s op) := by
  obtain ⟨d, rq, u, toU, toD⟩ := s
  cases op with
  | dCycle =>
    refine guarded (fun hc => ⟨fun _ _ => Or.inl (settleU_ptq _ _), fun hd => ?_⟩) fun _ => h
    cases hd; simp [retryable] at hc
  | uRecv =>
    cases toU with
    | nil => exact h
    | cons m r =>
      cases m with
      | ptq =>
        refine guarded (fun _ => h.of_u _ _ id) fun hu => h.of_u _ _ fun x => ?_
        -- no answer: the upload is in none of the four states of the guard, so it holds the request already
        rw [(uHolds_or u).resolve_right hu] at x ⊢
        exact x
      | replyOk => exact guarded (fun hu => by subst hu; exact h.of_u _ _ id) fun _ => h.of_u _ _ id
      | replyNo => exact guarded (fun hu => by subst hu; exact h.of_u _ _ id) fun _ => h.of_u _ _ (settleU_mono _ _)
  | uCycle =>
    exact guarded (fun hu => by subst hu; exact ⟨fun a b => (h.held a b).imp id (List.mem_append_left _), h.running⟩)
      fun _ => h
  | dRecv =>
    cases toD with
    | nil => exact h
    | cons m r =>
      cases m with
      | ptr =>
        exact guarded (fun _ => .of_idle (.inl rfl) D.noConfusion) fun hr =>
          guarded (fun _ => .of_idle (.inl (Bool.eq_false_iff.mpr hr)) h.running)
            fun _ => .of_idle (.inl (Bool.eq_false_iff.mpr hr)) h.running
      | puf => exact .of_idle (.inr rfl) fun _ => rfl
  | fUp => exact guarded (fun _ => .of_idle (.inr rfl) fun _ => rfl) fun _ => h
  | estFailD => exact guarded (fun _ => .of_idle (.inr rfl) D.noConfusion) fun _ => h
  | estFailU =>
    -- back to QUEUED from a state that held the request too
    refine guarded (fun hu => h.of_u _ _ ?_) fun _ => h
    rcases hu with rfl | rfl <;> exact id
  | uWroteAll => exact guarded (fun hu => by subst hu; exact h.of_u _ _ id) fun _ => h
  | dDone => exact guarded (fun _ => .of_idle (.inl rfl) D.noConfusion) fun _ => h
  | uEof => exact guarded (fun hu => .of_idle (.inl (hu.2 ▸ rfl)) h.running) fun _ => h
  | dLearn => exact guarded (fun hd => .of_idle (.inr (h.running hd)) D.noConfusion) fun _ => h
  | uLearn =>
    exact guarded (fun _ => ⟨fun _ _ => Or.inr (List.mem_append_right _ (List.mem_singleton_self _)), h.running⟩)
      fun _ => h
  | uLearnMute =>
    refine guarded (fun hu => h.of_u _ _ ?_) fun _ => h
    rcases hu with rfl | rfl <;> exact id
  | dCycleFail => exact guarded (fun hc => .of_idle (.inr (by simp at hc; exact hc.2)) D.noConfusion) fun _ => h
  | dRecvFail =>
    cases toD with
    | nil => exact h
    | cons m r =>
      cases m with
      | ptr =>
        exact guarded (fun _ => .of_idle (.inr rfl) D.noConfusion)
          fun hr => .of_idle (.inl (Bool.eq_false_iff.mpr hr)) h.running
      | puf => exact h
  | dUser => exact guarded (fun _ => h) fun _ => .of_idle (.inl rfl) D.noConfusion
  | dQueue => exact guarded (fun _ => .of_idle (.inr rfl) D.noConfusion) fun _ => h

theorem inv_run (ops : List Op) (s : S) (h : Inv s) : Inv (run s ops) :=
  List.foldlRecOn ops step h fun s h op _ => inv_step s op h

/-- From a quiescent state nothing is in flight and no attempt is under way, so the state is one of a finite table:
the download QUEUED or INCOMPLETE, the upload not begun or over; and a downloader that waits does so for a QUEUED
upload (`Inv.held`). The kernel runs each row to the end. -/
theorem round_completes (s : S) (hi : Inv s) (hq : quiescent s = true) (hr : retryable s.d = true) :
    (run s round).d = .complete ∧ (run s round).u = .complete ∧ quiescent (run s round) = true := by
  suffices h : run s round = ⟨.complete, false, .complete, [], []⟩ by rw [h]; exact ⟨rfl, rfl, rfl⟩
  obtain ⟨d, rq, u, toU, toD⟩ := s
  have hw := hi.held hr
  replace hr : retryable d = true := hr
  cases toU with
  | cons _ _ => exact absurd hq (by simp [quiescent])
  | nil =>
  cases toD with
  | cons _ _ => exact absurd hq (by simp [quiescent])
  | nil =>
  cases d with
  | initializing | downloading | complete | user => exact absurd hr (by decide +kernel)
  | queued | incomplete =>
    cases u with
    | initializing | connecting | uploading | eofWait => cases rq <;> exact absurd hq (by decide +kernel)
    | queued => cases rq <;> decide +kernel
    | none | failed | refused | complete =>
      cases rq with
      | false => decide +kernel
      | true => exact absurd (hw rfl) (by decide +kernel)

end Ctl

end AioslskVerif.FileXfer
