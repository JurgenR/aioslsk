import AioslskVerif.Proofs.PeerConnect
/-!
The wire-level half of C11 (`Model/PeerConnect.lean`, "The wire").  `WInv`: the wire-level state of the connection
objects (`X`) is a function of the control state (`S`) — of `ps`, of the phase of the accepted connection, of `ic`.  Every
step keeps it because of what `frameOK` (checked for every good state x every op in `table_ok`) says about how one step
can change these three.
-/
namespace AioslskVerif.PeerConnect

structure WInv (x : X) : Prop where
  dw : x.dw = if x.s.ps then finalize x.typ (Wire.fresh x.dialObf) else Wire.fresh x.dialObf
  enc : x.initEnc = if x.s.ps then some x.dialObf else none
  aC : x.s.a = .nConnected → x.aw = Wire.fresh x.aObf
  aI : x.s.a = .nInit → x.aw = finalize x.typ (Wire.fresh x.aObf)
  ic : x.s.ic = true → x.iw = finalize x.typ (Wire.fresh x.iObf)

theorem winv_init (t : CT) (o : Bool) (m : Mode) (l f : Bool) : WInv (xinit t o m l f) := by
  cases m <;> cases l <;> cases f <;> exact ⟨rfl, rfl, nofun, nofun, nofun⟩

def applyW (x : X) : Option WEv → X
  | some .writes => { x with initEnc := some x.dw.obf, dw := finalize x.typ x.dw }
  | some (.lands o) => { x with aObf := o, aw := Wire.fresh o }
  | some .accepts => { x with aw := finalize x.typ x.aw }
  | some .hands => { x with iObf := x.aObf, iw := x.aw }
  | none => x

theorem wireStep_eq (x : X) (op : Op) : wireStep x op = applyW x (wev x.s op) := by
  cases op with
  | note n => cases n <;> simp only [wireStep, wev] <;> first | rfl | (split <;> rfl)
  | pierce o => simp only [wireStep, wev]; split <;> rfl
  | _ => rfl

theorem aKept_iff {s s' : S} : aKept s s' = true ↔
    (s'.a = .nConnected → s.a = .nConnected) ∧ (s'.a = .nInit → s.a = .nInit) := by
  unfold aKept
  cases s.a <;> cases s'.a <;> decide

theorem icKept_iff {s s' : S} : (!s'.ic || s.ic) = true ↔ (s'.ic = true → s.ic = true) := by
  cases s'.ic <;> simp

theorem winv_step {x : X} {s' : S} {op : Op} (hg : good x.s = true) (hw : WInv x) (hs : step x.s op = some s') :
    WInv { wireStep x op with s := s' } := by
  have hf := (step_ok hg hs).2.1
  have hdw := hw.dw
  have henc := hw.enc
  rw [wireStep_eq]
  unfold frameOK at hf
  -- by the kind of step; `frameOK` says which of `ps`, `a`, `ic` it may have changed
  cases hwev : wev x.s op with
  | none =>
    simp only [hwev, Bool.and_eq_true, beq_iff_eq, aKept_iff, icKept_iff] at hf
    obtain ⟨⟨hps, ha1, ha2⟩, hic⟩ := hf
    refine ⟨?_, ?_, fun h => hw.aC (ha1 h), fun h => hw.aI (ha2 h), fun h => hw.ic (hic h)⟩ <;> simpa only [applyW, hps]
  | some e =>
    cases e with
    | writes =>
      simp only [hwev, Bool.and_eq_true, aKept_iff, icKept_iff, Bool.not_eq_true'] at hf
      obtain ⟨⟨⟨hps, hps'⟩, ha1, ha2⟩, hic⟩ := hf
      simp only [hps, Bool.false_eq_true, if_false] at hdw
      refine ⟨?_, ?_, fun h => hw.aC (ha1 h), fun h => hw.aI (ha2 h), fun h => hw.ic (hic h)⟩ <;>
        simp only [applyW, hps', if_true, hdw, Wire.fresh]
    | lands o =>
      simp only [hwev, Bool.and_eq_true, beq_iff_eq, icKept_iff] at hf
      obtain ⟨⟨hps, ha⟩, hic⟩ := hf
      refine ⟨?_, ?_, fun _ => rfl, fun h => ?_, fun h => hw.ic (hic h)⟩
      · simpa only [applyW, hps]
      · simpa only [applyW, hps]
      · rw [show s'.a = _ from ha] at h; cases h
    | accepts =>
      simp only [hwev, Bool.and_eq_true, beq_iff_eq, icKept_iff] at hf
      obtain ⟨⟨⟨hps, ha⟩, ha'⟩, hic⟩ := hf
      refine ⟨?_, ?_, fun h => ?_, fun _ => ?_, fun h => hw.ic (hic h)⟩
      · simpa only [applyW, hps]
      · simpa only [applyW, hps]
      · rw [show s'.a = _ from ha'] at h; cases h
      · simp only [applyW, hw.aC ha]
    | hands =>
      simp only [hwev, Bool.and_eq_true, beq_iff_eq, aKept_iff] at hf
      obtain ⟨⟨hps, ha⟩, ha1, ha2⟩ := hf
      refine ⟨?_, ?_, fun h => hw.aC (ha1 h), fun h => hw.aI (ha2 h), fun _ => hw.aI ha⟩ <;> simpa only [applyW, hps]

theorem xstepT_s (x : X) (op : Op) : (xstepT x op).s = stepT x.s op := by
  unfold xstepT xstep stepT
  cases step x.s op <;> rfl

theorem wireStep_cfg (x : X) (op : Op) : (wireStep x op).typ = x.typ ∧ (wireStep x op).dialObf = x.dialObf := by
  unfold wireStep
  split <;> (try split) <;> exact ⟨rfl, rfl⟩

theorem xstepT_cfg (x : X) (op : Op) : (xstepT x op).typ = x.typ ∧ (xstepT x op).dialObf = x.dialObf := by
  unfold xstepT xstep
  cases step x.s op with
  | none => exact ⟨rfl, rfl⟩
  | some s' => exact wireStep_cfg x op

theorem winv_xstepT {x : X} (op : Op) (hg : good x.s = true) (hw : WInv x) : WInv (xstepT x op) := by
  unfold xstepT xstep
  cases hs : step x.s op with
  | none => simpa using hw
  | some s' => simpa using winv_step hg hw hs

theorem xrun_s (t : CT) (o : Bool) (m : Mode) (l f : Bool) (ops : List Op) : (xrun t o m l f ops).s = run m l f ops :=
  (List.foldl_hom X.s fun x op => (xstepT_s x op).symm).symm

theorem xrun_inv (t : CT) (o : Bool) (m : Mode) (l f : Bool) (ops : List Op) :
    let x := xrun t o m l f ops
    WInv x ∧ good x.s = true ∧ x.typ = t ∧ x.dialObf = o :=
  List.foldlRecOn ops xstepT (motive := fun x => WInv x ∧ good x.s = true ∧ x.typ = t ∧ x.dialObf = o)
    ⟨winv_init t o m l f, good_init m l f, rfl, rfl⟩
    fun x ⟨hw, hg, ht, ho⟩ op _ => ⟨winv_xstepT op hg hw, xstepT_s x op ▸ good_stepT op hg,
      (xstepT_cfg x op).1.trans ht, (xstepT_cfg x op).2.trans ho⟩

theorem usable_finalized (t : CT) (o : Bool) :
    txOK t o (finalize t (Wire.fresh o)) = true ∧ rxOK t o (finalize t (Wire.fresh o)) = true := by
  cases t <;> cases o <;> exact ⟨rfl, rfl⟩

theorem selectPort_zero (prefer : Bool) (port obfs : Nat) :
    (selectPort prefer port obfs).1 = 0 ↔ port = 0 ∧ obfs = 0 := by
  simp only [selectPort]
  by_cases hp : port = 0 <;> by_cases ho : obfs = 0 <;> cases prefer <;> simp_all

end AioslskVerif.PeerConnect
