import AioslskVerif.Model.Rate
/-! C20. The window bound is a potential argument: `phi` = granted + what can still be granted without time passing;
no poll raises it, `dt` ticks raise it by `Lmax·dt`, a limit change by one quantum. The network of limiter objects
reduces to the single limiter because every grant under a limit is a poll of the current object (`Evolves`). FIFO
order and "no request lost" are list identities kept by every step; bounded wait is a second potential,
`16·(requests ahead) + rem`. -/
namespace AioslskVerif.Rate
open AioslskVerif.Generated.Rate

theorem tps_eq : tps = 1024 := rfl
theorem minBucket_pos : 0 < minBucket := by decide
theorem quantum_le_kb : minBucket ≤ bytesPerKb := by decide

/-- what `refill` adds to a non-full bucket (`refill_lt`) -/
def credit (s : Lim) (now : Nat) : Nat := min (s.L - s.bucket) ((s.L - s.bucket) * (now - s.last) / tps)

theorem credit_le_room (s : Lim) (now : Nat) (h : s.bucket ≤ s.L) : s.bucket + credit s now ≤ s.L :=
  Nat.le_trans (Nat.add_le_add_left (Nat.min_le_left _ _) _) (Nat.le_of_eq (Nat.add_sub_cancel' h))

theorem credit_scaled_le (s : Lim) (now Lmax : Nat) (hL : s.L ≤ Lmax) :
    1024 * credit s now ≤ Lmax * (now - s.last) :=
  Nat.le_trans (Nat.mul_le_mul_left _ (Nat.min_le_right _ _)) <| Nat.le_trans (Nat.mul_div_le _ _) <|
    Nat.mul_le_mul_right _ (Nat.le_trans (Nat.sub_le _ _) hL)

theorem credit_scaled_ge (l : Lim) (t : Nat) :
    l.L ≤ l.bucket + credit l t ∨ (l.L - l.bucket) * (t - l.last) < 1024 * (credit l t + 1) := by
  unfold credit
  rcases Nat.le_total (l.L - l.bucket) ((l.L - l.bucket) * (t - l.last) / tps) with h | h
  · rw [Nat.min_eq_left h]; left; omega
  · rw [Nat.min_eq_right h]; right; exact Nat.lt_mul_div_succ _ (by decide)

theorem addTokens_eq (s : Lim) (n : Nat) : addTokens s n = { s with bucket := min s.L (s.bucket + n) } := by
  unfold addTokens; split <;> congr 1 <;> omega

theorem refill_full (s : Lim) (now : Nat) (h : s.L = s.bucket) : refill s now = (s, false) := by
  simp [refill, h]

theorem refill_snd (s : Lim) (now : Nat) : (refill s now).2 = true →
    (refill s now).1.bucket < minBucket := by
  unfold refill
  split
  · simp
  · simp [isEmpty]

theorem refill_snd_false (s : Lim) (now : Nat) (hq : minBucket ≤ s.L) : (refill s now).2 = false →
    minBucket ≤ (refill s now).1.bucket := by
  unfold refill
  split
  · rename_i h; intro _; simpa [← h] using hq
  · simp [isEmpty]

theorem refill_lt (s : Lim) (now : Nat) (h : s.bucket < s.L) :
    refill s now = ({ L := s.L, bucket := s.bucket + credit s now, last := now },
      decide (s.bucket + credit s now < minBucket)) := by
  have hb : min s.L (s.bucket + (s.L - s.bucket) * (now - s.last) / tps) = s.bucket + credit s now := by
    unfold credit; omega
  simp [refill, Nat.ne_of_gt h, h, addTokens_eq, isEmpty, hb]

theorem poll_full (s : Lim) (t : Nat) (h : s.L = s.bucket) :
    poll s t = ({ s with bucket := s.bucket - minBucket }, minBucket) := by
  simp [poll, refill_full s t h]

theorem poll_notfull (s : Lim) (t : Nat) (h : s.bucket < s.L) :
    ∃ g, (g = 0 ∧ s.bucket + credit s t < minBucket ∨ g = minBucket ∧ minBucket ≤ s.bucket + credit s t) ∧
      poll s t = ({ L := s.L, bucket := s.bucket + credit s t - g, last := t }, g) := by
  simp only [poll, refill_lt s t h, decide_eq_true_eq]
  split
  · exact ⟨0, .inl ⟨rfl, ‹_›⟩, rfl⟩
  · exact ⟨_, .inr ⟨rfl, by omega⟩, rfl⟩

theorem refill_L (l : Lim) (t : Nat) : (refill l t).1.L = l.L := by
  by_cases h : l.L = l.bucket
  · rw [refill_full l t h]
  · unfold refill; simp only [h, if_false, addTokens_eq]; split <;> rfl

theorem poll_L (l : Lim) (t : Nat) : (poll l t).1.L = l.L := by
  simp only [poll]
  split <;> exact refill_L l t

theorem poll_result (l : Lim) (t : Nat) : (poll l t).2 = 0 ∨ (poll l t).2 = minBucket := by
  simp only [poll]; split <;> simp

theorem poll_eq_zero {l : Lim} {t : Nat} (hz : (poll l t).2 = 0) (hb : l.bucket ≤ l.L) :
    l.bucket + credit l t < minBucket ∧ poll l t = ({ L := l.L, bucket := l.bucket + credit l t, last := t }, 0) := by
  by_cases hfull : l.L = l.bucket
  · rw [poll_full l t hfull] at hz
    exact absurd hz (Nat.ne_of_gt minBucket_pos)
  · obtain ⟨g, hg, hp⟩ := poll_notfull l t (by omega)
    rw [hp] at hz ⊢
    subst hz
    exact ⟨by have := minBucket_pos; omega, rfl⟩

theorem poll_zero_bucket (l : Lim) (t : Nat) (hz : (poll l t).2 = 0) : (poll l t).1.bucket < minBucket := by
  simp only [poll] at hz ⊢
  split at hz
  · rename_i h
    rw [if_pos h]
    exact refill_snd l t h
  · exact absurd hz (Nat.ne_of_gt minBucket_pos)

/-- `minBucket ≤ L`: a limited limiter has `L = kbps · bytesPerKb` with `kbps ≥ 1` (`setLimit_pos`, `quantum_le_kb`). -/
def Lim.WF (s : Lim) (now : Nat) : Prop := s.bucket ≤ s.L ∧ s.last ≤ now ∧ minBucket ≤ s.L

/-- accounting potential (scaled by `tps`): what has been granted + what can still be granted
without further passage of time, + one quantum when the bucket is full (the refill clock of a
full bucket is not advanced, rate_limiter.py:85-86). -/
def phi (Lmax : Nat) (s : Lim) (now G : Nat) : Nat :=
  tps * G + min (tps * Lmax) (tps * s.bucket + Lmax * (now - s.last))
    + (if s.bucket = s.L then tps * minBucket else 0)

/-- The arithmetic of every step of the potential `1024·G + min A X + F`: `g` tokens are granted, the refillable part
goes from `X` to `X'`, the full-bucket quantum from `F` to `F'`, and the step may add `c`. -/
theorem pot_le {G g A X X' F F' c : Nat} (h1 : 1024 * g + X' + F' ≤ X + F + c)
    (h2 : 1024 * g + F' ≤ F + c ∨ 1024 * g + X' + F' ≤ A + F + c) :
    1024 * (G + g) + min A X' + F' ≤ 1024 * G + min A X + F + c := by omega

theorem poll_phi (Lmax : Nat) (s : Lim) (t G : Nat) (hwf : s.WF t) (hL : s.L ≤ Lmax) :
    (poll s t).1.WF t ∧ phi Lmax (poll s t).1 t (G + (poll s t).2) ≤ phi Lmax s t G := by
  obtain ⟨hb, hl, hq⟩ := hwf
  have hq0 := minBucket_pos
  by_cases hfull : s.L = s.bucket
  · -- full bucket: the grant uses up the quantum that `phi` holds for a full bucket; the refill clock stays
    rw [poll_full s t hfull]
    have hne : ¬ s.bucket - minBucket = s.L := by omega
    refine ⟨⟨Nat.le_trans (Nat.sub_le _ _) hb, hl, hq⟩, ?_⟩
    simp only [phi, tps_eq, if_pos hfull.symm, if_neg hne]
    refine pot_le (c := 0) ?_ (.inl (Nat.le_refl _))
    omega
  · -- the refill turns time passed into tokens (`credit_scaled_le`), the grant turns tokens into `G`
    have hc := credit_scaled_le s t Lmax hL
    have hr := credit_le_room s t hb
    obtain ⟨g, hg, hp⟩ := poll_notfull s t (Nat.lt_of_le_of_ne hb (Ne.symm hfull))
    rw [hp]
    generalize credit s t = c at *
    have hgle : g ≤ s.bucket + c := by omega
    have hne : ¬ s.bucket + c - g = s.L := by omega
    clear hg hp
    refine ⟨⟨Nat.le_trans (Nat.sub_le _ _) hr, Nat.le_refl _, hq⟩, ?_⟩
    simp only [phi, tps_eq, Nat.sub_self, Nat.mul_zero, if_neg hne, if_neg (Ne.symm hfull)]
    generalize Lmax * (t - s.last) = Y at *
    refine pot_le (F := 0) (F' := 0) (c := 0) ?_ (.inr ?_) <;> omega

theorem Lim.WF.mono {s : Lim} {now t : Nat} (h : s.WF now) (ht : now ≤ t) : s.WF t :=
  ⟨h.1, Nat.le_trans h.2.1 ht, h.2.2⟩

theorem mul_advance (Lmax : Nat) {last now : Nat} (dt : Nat) (h : last ≤ now) :
    Lmax * (now + dt - last) = Lmax * (now - last) + Lmax * dt := by
  rw [← Nat.mul_add, Nat.sub_add_comm h]

theorem phi_mono_time (Lmax : Nat) (l : Lim) (now dt G : Nat) (hl : l.last ≤ now) :
    phi Lmax l (now + dt) G ≤ phi Lmax l now G + Lmax * dt := by
  simp only [phi, tps_eq, mul_advance Lmax dt hl]
  refine pot_le (g := 0) ?_ (.inl ?_) <;> omega

def Limiter.WF (lim : Limiter) (now Lmax : Nat) : Prop :=
  match lim with
  | .limited l => l.WF now ∧ l.L ≤ Lmax
  | .unlimited _ last => last ≤ now

/-- the accounting potential of a limiter object: an unlimited limiter carries the bucket and refill
clock of the limiter it replaced (it never has a "full" bucket of its own) -/
def phiL (Lmax : Nat) (lim : Limiter) (now G : Nat) : Nat :=
  match lim with
  | .limited l => phi Lmax l now G
  | .unlimited b last => tps * G + min (tps * Lmax) (tps * b + Lmax * (now - last))

theorem Limiter.WF.last_le {lim : Limiter} {now Lmax : Nat} (h : lim.WF now Lmax) : lim.last ≤ now := by
  cases lim with
  | limited l => exact h.1.2.1
  | unlimited b last => exact h

theorem phiL_mono_time (Lmax : Nat) (lim : Limiter) (now dt G : Nat) (hwf : lim.WF now Lmax) :
    lim.WF (now + dt) Lmax ∧ phiL Lmax lim (now + dt) G ≤ phiL Lmax lim now G + Lmax * dt := by
  cases lim with
  | limited l => exact ⟨⟨hwf.1.mono (Nat.le_add_right _ _), hwf.2⟩, phi_mono_time Lmax l now dt G hwf.1.2.1⟩
  | unlimited b last =>
    refine ⟨Nat.le_trans hwf (Nat.le_add_right _ _), ?_⟩
    simp only [phiL, tps_eq, mul_advance Lmax dt hwf]
    refine pot_le (g := 0) (F := 0) (F' := 0) ?_ (.inl ?_) <;> omega

/-- the part of the potential that a replacing limiter takes over: bucket and refill clock -/
theorem phiL_ge_core (Lmax : Nat) (lim : Limiter) (now G : Nat) :
    1024 * G + min (1024 * Lmax) (1024 * lim.bucket + Lmax * (now - lim.last)) ≤ phiL Lmax lim now G := by
  cases lim with
  | limited l => exact Nat.le_add_right _ _
  | unlimited b last => exact Nat.le_refl _

theorem setLimit_zero (old : Limiter) : setLimit old 0 = .unlimited old.bucket old.last := rfl

theorem setLimit_pos (old : Limiter) (k : Nat) (hk : k ≠ 0) :
    setLimit old k = .limited { L := k * bytesPerKb, bucket := min (k * bytesPerKb) old.bucket, last := old.last } := by
  simp [setLimit, hk, addTokens_eq]

theorem setLimit_phiL (Lmax : Nat) (lim : Limiter) (now G k : Nat) (hwf : lim.WF now Lmax)
    (hk : k * bytesPerKb ≤ Lmax) :
    (setLimit lim k).WF now Lmax ∧
      phiL Lmax (setLimit lim k) now G ≤ phiL Lmax lim now G + 1024 * minBucket := by
  have hcore := phiL_ge_core Lmax lim now G
  by_cases hk0 : k = 0
  · subst hk0
    exact ⟨hwf.last_le, Nat.le_trans hcore (Nat.le_add_right _ _)⟩
  · have hq : minBucket ≤ k * bytesPerKb :=
      Nat.le_trans quantum_le_kb (Nat.le_mul_of_pos_left _ (Nat.pos_of_ne_zero hk0))
    rw [setLimit_pos lim k hk0]
    refine ⟨⟨⟨Nat.min_le_left _ _, hwf.last_le, hq⟩, hk⟩, Nat.le_trans ?_ (Nat.add_le_add_right hcore _)⟩
    simp only [phiL, phi, tps_eq]
    -- the bucket taken over may fill the new limiter at once: that full-bucket quantum is what the step adds
    refine pot_le (g := 0) (F := 0) ?_ (.inl ?_) <;> split <;> omega

/-- finitely many polls, all at clock reading `t`, take the limiter from `l` to `l'` and grant `g` tokens in all -/
inductive PolledAt (t : Nat) : Lim → Lim → Nat → Prop
  | refl (l : Lim) : PolledAt t l l 0
  | step {l l' : Lim} {g : Nat} : PolledAt t (poll l t).1 l' g → PolledAt t l l' ((poll l t).2 + g)

theorem PolledAt.one (t : Nat) (l : Lim) : PolledAt t l (poll l t).1 (poll l t).2 := .step (.refl _)

theorem PolledAt.trans {t : Nat} {l l1 l2 : Lim} {g1 g2 : Nat} (h1 : PolledAt t l l1 g1) (h2 : PolledAt t l1 l2 g2) :
    PolledAt t l l2 (g1 + g2) := by
  induction h1 with
  | refl => rw [Nat.zero_add]; exact h2
  | step _ ih => rw [Nat.add_assoc]; exact .step (ih h2)

theorem PolledAt.phi_le (Lmax : Nat) {l l' : Lim} {t g : Nat} (h : PolledAt t l l' g) (hwf : l.WF t) (hL : l.L ≤ Lmax)
    (G : Nat) : l'.WF t ∧ l'.L = l.L ∧ phi Lmax l' t (G + g) ≤ phi Lmax l t G := by
  induction h generalizing G with
  | refl => exact ⟨hwf, rfl, Nat.le_refl _⟩
  | @step l l' g _ ih =>
    obtain ⟨w, p⟩ := poll_phi Lmax l t G hwf hL
    obtain ⟨w', e, p'⟩ := ih w ((poll_L l t).symm ▸ hL) (G + (poll l t).2)
    rw [← Nat.add_assoc]
    exact ⟨w', e.trans (poll_L l t), Nat.le_trans p' p⟩

/-- what an unlimited limiter grants is not counted -/
def Limiter.Polled (t : Nat) (lim lim' : Limiter) (g : Nat) : Prop :=
  match lim with
  | .unlimited _ _ => lim' = lim ∧ g = 0
  | .limited l => ∃ l', lim' = .limited l' ∧ PolledAt t l l' g

theorem Limiter.Polled.refl (t : Nat) (lim : Limiter) : lim.Polled t lim 0 := by
  cases lim with
  | unlimited b l => exact ⟨rfl, rfl⟩
  | limited l => exact ⟨l, rfl, .refl l⟩

theorem Limiter.Polled.trans {t : Nat} {lim lim1 lim2 : Limiter} {g1 g2 : Nat} (h1 : lim.Polled t lim1 g1)
    (h2 : lim1.Polled t lim2 g2) : lim.Polled t lim2 (g1 + g2) := by
  cases lim with
  | unlimited b l =>
    obtain ⟨rfl, rfl⟩ := h1
    obtain ⟨rfl, rfl⟩ := h2
    exact ⟨rfl, rfl⟩
  | limited l =>
    obtain ⟨l1, rfl, p1⟩ := h1
    obtain ⟨l2, rfl, p2⟩ := h2
    exact ⟨l2, rfl, p1.trans p2⟩

theorem Limiter.Polled.phiL_le (Lmax : Nat) {lim lim' : Limiter} {now dt g : Nat}
    (h : lim.Polled (now + dt) lim' g) (hwf : lim.WF now Lmax) (G : Nat) :
    lim'.WF (now + dt) Lmax ∧ phiL Lmax lim' (now + dt) (G + g) ≤ phiL Lmax lim now G + Lmax * dt := by
  obtain ⟨w, m⟩ := phiL_mono_time Lmax lim now dt G hwf
  cases lim with
  | unlimited b last =>
    obtain ⟨rfl, rfl⟩ := h
    exact ⟨w, m⟩
  | limited l =>
    obtain ⟨l', rfl, h⟩ := h
    obtain ⟨w', e, p⟩ := h.phi_le Lmax w.1 w.2 G
    exact ⟨⟨w', e ▸ w.2⟩, Nat.le_trans p m⟩

theorem Limiter.poll_polled (lim : Limiter) (t : Nat) :
    lim.Polled t (lim.poll t).1 (match lim with | .unlimited _ _ => 0 | .limited _ => (lim.poll t).2) := by
  cases lim with
  | unlimited b last => exact ⟨rfl, rfl⟩
  | limited l => exact ⟨_, rfl, .one t l⟩

def run (s : St) (ops : List Op) : St := ops.foldl (fun s o => (step s o).1) s

def elapsed : List Op → Nat
  | [] => 0
  | .poll dt :: r => dt + elapsed r
  | .setLimit _ :: r => elapsed r

def changes : List Op → Nat
  | [] => 0
  | .poll _ :: r => changes r
  | .setLimit _ :: r => 1 + changes r

def LimitsWithin (Lmax : Nat) : List Op → Prop
  | [] => True
  | .poll _ :: r => LimitsWithin Lmax r
  | .setLimit k :: r => k * bytesPerKb ≤ Lmax ∧ LimitsWithin Lmax r

theorem bound_poll {a a' L d e z : Nat} (h : a' ≤ a + L * d) : a' + L * e + z ≤ a + L * (d + e) + z := by
  rw [Nat.mul_add]; omega

theorem bound_change {a a' x C y : Nat} (h : a' ≤ a + C) : a' + x + C * y ≤ a + x + C * (1 + y) := by
  rw [Nat.mul_add, Nat.mul_one]; omega

/-- The accounting invariant over any run: polls, limit changes, periods without a limit. -/
theorem run_phi (Lmax : Nat) : ∀ (ops : List Op) (lim : Limiter) (now G : Nat),
    lim.WF now Lmax → LimitsWithin Lmax ops →
    (run { lim := lim, now := now, granted := G } ops).lim.WF (now + elapsed ops) Lmax ∧
      (run { lim := lim, now := now, granted := G } ops).now = now + elapsed ops ∧
      phiL Lmax (run { lim := lim, now := now, granted := G } ops).lim (now + elapsed ops)
          (run { lim := lim, now := now, granted := G } ops).granted
        ≤ phiL Lmax lim now G + Lmax * elapsed ops + 1024 * minBucket * changes ops := by
  intro ops
  induction ops with
  | nil => exact fun lim now G hwf _ => ⟨hwf, rfl, Nat.le_refl _⟩
  | cons op r ih =>
    intro lim now G hwf hops
    cases op with
    | poll dt =>
      obtain ⟨w, p⟩ := (lim.poll_polled (now + dt)).phiL_le Lmax hwf G
      obtain ⟨i1, i2, i3⟩ := ih _ _ _ w hops
      rw [elapsed, ← Nat.add_assoc]
      exact ⟨i1, i2, Nat.le_trans i3 (bound_poll p)⟩
    | setLimit k =>
      obtain ⟨w, p⟩ := setLimit_phiL Lmax lim now G k hwf hops.1
      obtain ⟨i1, i2, i3⟩ := ih (setLimit lim k) now G w hops.2
      exact ⟨i1, i2, Nat.le_trans i3 (bound_change p)⟩

theorem le_phiL (Lmax : Nat) (lim : Limiter) (now G : Nat) : 1024 * G ≤ phiL Lmax lim now G :=
  Nat.le_trans (Nat.le_add_right _ _) (phiL_ge_core Lmax lim now G)

theorem phiL_le (Lmax : Nat) (lim : Limiter) (now G : Nat) :
    phiL Lmax lim now G ≤ 1024 * G + 1024 * Lmax + 1024 * minBucket := by
  cases lim with
  | unlimited b last =>
    exact Nat.le_trans (Nat.add_le_add_left (Nat.min_le_left _ _) _) (Nat.le_add_right _ _)
  | limited l =>
    refine Nat.add_le_add (Nat.add_le_add_left (Nat.min_le_left _ _) _) ?_
    split
    · exact Nat.le_refl _
    · exact Nat.zero_le _

theorem phi_le_notfull (Lmax : Nat) (l : Lim) (now G : Nat) (h : l.bucket < l.L) :
    phi Lmax l now G ≤ 1024 * G + 1024 * Lmax := by
  simp only [phi, tps_eq, if_neg (Nat.ne_of_lt h)]; omega

def waitingList (o : LObj) : List Nat := o.holder.toList ++ o.queue

/-- the lock is only free when nobody waits for it (`asyncio.Lock.release` wakes the first waiter) -/
def LObj.Tidy (o : LObj) : Prop := o.holder = none → o.queue = []

theorem cascade_cons_zero {lim : Lim} {now : Nat} (h : (poll lim now).2 = 0) (p : Nat) (q : List Nat) :
    cascade lim now (p :: q) = ({ lim := (poll lim now).1, holder := some p, queue := q }, []) := by
  simp [cascade, h]

theorem cascade_cons_pos {lim : Lim} {now : Nat} (h : (poll lim now).2 ≠ 0) (p : Nat) (q : List Nat) :
    cascade lim now (p :: q) = ((cascade (poll lim now).1 now q).1, p :: (cascade (poll lim now).1 now q).2) := by
  simp [cascade, h]

theorem holderPoll_some {o : LObj} {h : Nat} (hh : o.holder = some h) (now : Nat) :
    o.holderPoll now = cascade o.lim now (h :: o.queue) := by
  obtain ⟨lim, holder, queue⟩ := o
  subst hh
  rfl

theorem holderPoll_none {o : LObj} (hh : o.holder = none) (now : Nat) : o.holderPoll now = (o, []) := by
  simp [LObj.holderPoll, hh]

theorem cascade_spec (now : Nat) (q : List Nat) : ∀ lim : Lim,
    (cascade lim now q).2 ++ waitingList (cascade lim now q).1 = q ∧ (cascade lim now q).1.Tidy := by
  induction q with
  | nil => exact fun _ => ⟨rfl, fun _ => rfl⟩
  | cons p q ih =>
    intro lim
    by_cases hz : (poll lim now).2 = 0
    · rw [cascade_cons_zero hz]
      exact ⟨rfl, fun h => nomatch h⟩
    · rw [cascade_cons_pos hz]
      exact ⟨congrArg (p :: ·) (ih _).1, (ih _).2⟩

theorem holderPoll_waiting (o : LObj) (now : Nat) :
    (o.holderPoll now).2 ++ waitingList (o.holderPoll now).1 = waitingList o := by
  cases hh : o.holder with
  | none => rw [holderPoll_none hh]; rfl
  | some h => rw [holderPoll_some hh, (cascade_spec now _ _).1, waitingList, hh]; rfl

theorem holderPoll_tidy (o : LObj) (now : Nat) (ht : o.Tidy) : (o.holderPoll now).1.Tidy := by
  cases hh : o.holder with
  | none => rw [holderPoll_none hh]; exact ht
  | some h => rw [holderPoll_some hh]; exact (cascade_spec now _ _).2

theorem arrive_spec (o : LObj) (p now : Nat) (ht : o.Tidy) :
    (o.arrive p now).2 ++ waitingList (o.arrive p now).1 = waitingList o ++ [p] ∧ (o.arrive p now).1.Tidy := by
  unfold LObj.arrive
  cases hh : o.holder with
  | none =>
    exact ⟨by rw [holderPoll_waiting]; simp [waitingList, hh, ht hh], holderPoll_tidy _ now (fun h => nomatch h)⟩
  | some h => exact ⟨by simp [waitingList, hh], fun h => nomatch h⟩

/-- one limited limiter object driven by arrivals of requests and by the holder's wake-ups -/
structure LockRun where
  o : LObj
  now : Nat
  arrivals : List Nat      -- ghost: pollers in order of their `take_tokens()` calls
  served : List Nat        -- ghost: pollers in the order in which they were granted tokens

inductive LOp
  | arrive (p : Nat) (dt : Nat)
  | wake (dt : Nat)

def lstep (s : LockRun) : LOp → LockRun
  | .arrive p dt =>
    let r := s.o.arrive p (s.now + dt)
    { o := r.1, now := s.now + dt, arrivals := s.arrivals ++ [p], served := s.served ++ r.2 }
  | .wake dt =>
    let r := s.o.holderPoll (s.now + dt)
    { o := r.1, now := s.now + dt, arrivals := s.arrivals, served := s.served ++ r.2 }

def lrun (s : LockRun) (ops : List LOp) : LockRun := ops.foldl lstep s

theorem lstep_fifo (s : LockRun) (op : LOp) (ht : s.o.Tidy) (h : s.served ++ waitingList s.o = s.arrivals) :
    (lstep s op).served ++ waitingList (lstep s op).o = (lstep s op).arrivals ∧ (lstep s op).o.Tidy := by
  cases op with
  | arrive p dt =>
    have a := arrive_spec s.o p (s.now + dt) ht
    refine ⟨?_, a.2⟩
    simp only [lstep, List.append_assoc, a.1]
    rw [← List.append_assoc, h]
  | wake dt =>
    refine ⟨?_, holderPoll_tidy s.o (s.now + dt) ht⟩
    simp only [lstep, List.append_assoc, holderPoll_waiting]
    exact h

theorem lrun_fifo (ops : List LOp) (s : LockRun) (ht : s.o.Tidy) (h : s.served ++ waitingList s.o = s.arrivals) :
    (lrun s ops).served ++ waitingList (lrun s ops).o = (lrun s ops).arrivals ∧ (lrun s ops).o.Tidy :=
  List.foldlRecOn (motive := fun s => s.served ++ waitingList s.o = s.arrivals ∧ s.o.Tidy) ops lstep ⟨h, ht⟩
    fun s hs op _ => lstep_fifo s op hs.2 hs.1

@[simp] theorem fateGrants_granted (p g : Nat) : fateGrants p (.granted g) = [(p, g)] := rfl
@[simp] theorem fateGrants_asleep (p : Nat) : fateGrants p .asleep = [] := rfl
@[simp] theorem fateGrants_queued (p : Nat) : fateGrants p .queued = [] := rfl

/-- Every operation of the network at clock `t` does this to the current object: a replaced object never grants, so
every grant under a limit is a poll of the current one. -/
def Evolves (t : Nat) (c c' : NObj) (g : Nat) : Prop := c.limiter.Polled t c'.limiter g

/-- tokens of a grant list that count against a limit: all of them if the granting object is limited -/
def limitedTotal (c : NObj) (gs : List (Nat × Nat)) : Nat :=
  match c with
  | .unlimited _ _ => 0
  | .limited _ => (gs.map (·.2)).sum

theorem limitedTotal_nil (c : NObj) : limitedTotal c [] = 0 := by cases c <;> rfl

theorem limitedTotal_append (c : NObj) (gs hs : List (Nat × Nat)) :
    limitedTotal c (gs ++ hs) = limitedTotal c gs + limitedTotal c hs := by
  cases c <;> simp [limitedTotal]

/-- the kind of an object never changes -/
theorem Evolves.limitedTotal_eq {t : Nat} {c c' : NObj} {g : Nat} (h : Evolves t c c' g)
    (gs : List (Nat × Nat)) : limitedTotal c' gs = limitedTotal c gs := by
  cases c with
  | unlimited b l =>
    cases c' with
    | unlimited b' l' => rfl
    | limited o' => exact nomatch h.1
  | limited o =>
    obtain ⟨_, h, _⟩ := h
    cases c' with
    | unlimited b' l' => exact nomatch h
    | limited o' => rfl

theorem Evolves.refl_nil (t : Nat) (c : NObj) : Evolves t c c (limitedTotal c []) := by
  rw [limitedTotal_nil]; exact Limiter.Polled.refl t c.limiter

theorem enterCur_evolves (p now : Nat) (c : NObj) :
    Evolves now c (enterCur p now c).1 (limitedTotal c (fateGrants p (enterCur p now c).2)) := by
  cases c with
  | unlimited b l => exact ⟨rfl, rfl⟩
  | limited o =>
    obtain ⟨lim, holder, queue⟩ := o
    cases holder with
    | some h => exact ⟨_, rfl, .refl lim⟩
    | none =>
      have h := PolledAt.one now lim
      by_cases hz : (poll lim now).2 = 0
      · simp only [enterCur, hz, if_true]
        rw [hz] at h
        exact ⟨_, rfl, h⟩
      · simp only [enterCur, hz, if_false]
        exact ⟨_, rfl, h⟩

/-- a request entering the chain either stops at a replaced object (the current one is untouched) or enters the
current object -/
theorem enterChain_evolves (p now : Nat) (olds : List NObj) (cur : NObj) :
    Evolves now cur (enterChain p now olds cur).2.1 (limitedTotal cur (fateGrants p (enterChain p now olds cur).2.2)) := by
  induction olds with
  | nil => exact enterCur_evolves p now cur
  | cons x rest ih =>
    cases x with
    | unlimited b l => exact ih
    | limited o =>
      unfold enterChain
      cases o.holder with
      | some h => exact Evolves.refl_nil now cur
      | none => exact ih

theorem enterAll_cons (now p : Nat) (ps : List Nat) (olds : List NObj) (cur : NObj) :
    enterAll now (p :: ps) olds cur =
      ((enterAll now ps (enterChain p now olds cur).1 (enterChain p now olds cur).2.1).1,
       (enterAll now ps (enterChain p now olds cur).1 (enterChain p now olds cur).2.1).2.1,
       fateGrants p (enterChain p now olds cur).2.2 ++
         (enterAll now ps (enterChain p now olds cur).1 (enterChain p now olds cur).2.1).2.2) := by
  rw [enterAll]
  cases (enterChain p now olds cur).2.2 <;> rfl

theorem enterAll_evolves (now : Nat) (ps : List Nat) : ∀ (olds : List NObj) (cur : NObj),
    Evolves now cur (enterAll now ps olds cur).2.1 (limitedTotal cur (enterAll now ps olds cur).2.2) := by
  induction ps with
  | nil => exact fun _ cur => Evolves.refl_nil now cur
  | cons p ps ih =>
    intro olds cur
    have h1 := enterChain_evolves p now olds cur
    have h2 := ih (enterChain p now olds cur).1 (enterChain p now olds cur).2.1
    rw [h1.limitedTotal_eq] at h2
    rw [enterAll_cons, limitedTotal_append]
    exact h1.trans h2

theorem cascade_polled (now : Nat) (q : List Nat) : ∀ lim : Lim,
    PolledAt now lim (cascade lim now q).1.lim ((cascade lim now q).2.length * minBucket) := by
  induction q with
  | nil => exact fun lim => .refl lim
  | cons p q ih =>
    intro lim
    by_cases hz : (poll lim now).2 = 0
    · have h := PolledAt.one now lim
      rw [hz] at h
      rw [cascade_cons_zero hz]
      exact h
    · have h := PolledAt.step (ih (poll lim now).1)
      rw [(poll_result lim now).resolve_left hz] at h
      rw [cascade_cons_pos hz, List.length_cons, Nat.succ_mul, Nat.add_comm]
      exact h

theorem sum_const_pairs (xs : List Nat) (q : Nat) : ((xs.map (·, q)).map (·.2)).sum = xs.length * q := by
  induction xs with
  | nil => simp
  | cons x xs ih => simp only [List.map_cons, List.sum_cons, List.length_cons, ih, Nat.succ_mul, Nat.add_comm]

theorem wakeCur_evolves (now : Nat) (c : NObj) : Evolves now c (wakeCur now c).1 (limitedTotal c (wakeCur now c).2) := by
  cases c with
  | unlimited b l => exact ⟨rfl, rfl⟩
  | limited o =>
    refine ⟨(o.holderPoll now).1.lim, rfl, ?_⟩
    show PolledAt now o.lim _ (((o.holderPoll now).2.map (·, minBucket)).map (·.2)).sum
    rw [sum_const_pairs]
    cases hh : o.holder with
    | none => rw [holderPoll_none hh]; exact .refl _
    | some h => rw [holderPoll_some hh]; exact cascade_polled now _ _

theorem wakeOld_evolves (now i : Nat) (olds : List NObj) (cur : NObj) :
    Evolves now cur (wakeOld now i olds cur).2.1 (limitedTotal cur (wakeOld now i olds cur).2.2) := by
  unfold wakeOld
  split
  · exact enterAll_evolves now _ _ cur
  · exact Evolves.refl_nil now cur

theorem netPoll_evolves (n : Net) (pid dt : Nat) :
    Evolves (n.now + dt) n.cur (n.poll pid dt).1.cur (limitedTotal n.cur (n.poll pid dt).2) ∧
    (n.poll pid dt).1.now = n.now + dt := by
  unfold Net.poll
  split
  · split
    · exact ⟨wakeOld_evolves (n.now + dt) _ n.olds n.cur, rfl⟩
    · exact ⟨wakeCur_evolves (n.now + dt) n.cur, rfl⟩
  · exact ⟨Evolves.refl_nil (n.now + dt) n.cur, rfl⟩
  · exact ⟨enterCur_evolves pid (n.now + dt) n.cur, rfl⟩

inductive NOp
  | poll (pid dt : Nat)        -- clock += dt, poller `pid` is stepped
  | setLimit (kbps : Nat)
deriving Repr

structure NRun where
  net : Net
  granted : Nat                -- ghost: tokens granted while a limit was in force, all connections together

def nstep (s : NRun) : NOp → NRun
  | .poll pid dt =>
    let r := s.net.poll pid dt
    { net := r.1, granted := s.granted + limitedTotal s.net.cur r.2 }
  | .setLimit k => { s with net := s.net.setLimit k }

def nrun (s : NRun) (ops : List NOp) : NRun := ops.foldl nstep s

def nelapsed : List NOp → Nat
  | [] => 0
  | .poll _ dt :: r => dt + nelapsed r
  | .setLimit _ :: r => nelapsed r

def nchanges : List NOp → Nat
  | [] => 0
  | .poll _ _ :: r => nchanges r
  | .setLimit _ :: r => 1 + nchanges r

def NLimitsWithin (Lmax : Nat) : List NOp → Prop
  | [] => True
  | .poll _ _ :: r => NLimitsWithin Lmax r
  | .setLimit k :: r => k * bytesPerKb ≤ Lmax ∧ NLimitsWithin Lmax r

theorem Net.setLimit_cur (n : Net) (k : Nat) : (n.setLimit k).cur.limiter = Rate.setLimit n.cur.limiter k := by
  unfold Net.setLimit
  cases Rate.setLimit n.cur.limiter k <;> rfl

/-- `run_phi` for the network, the current object in the place of the one limiter -/
theorem nrun_phi (Lmax : Nat) (ops : List NOp) : ∀ s : NRun,
    s.net.cur.limiter.WF s.net.now Lmax → NLimitsWithin Lmax ops →
    (nrun s ops).net.cur.limiter.WF (nrun s ops).net.now Lmax ∧
    phiL Lmax (nrun s ops).net.cur.limiter (nrun s ops).net.now (nrun s ops).granted
      ≤ phiL Lmax s.net.cur.limiter s.net.now s.granted + Lmax * nelapsed ops + 1024 * minBucket * nchanges ops := by
  induction ops with
  | nil => exact fun s hwf _ => ⟨hwf, Nat.le_refl _⟩
  | cons op r ih =>
    intro s hwf hops
    cases op with
    | poll pid dt =>
      obtain ⟨hev, hnow⟩ := netPoll_evolves s.net pid dt
      obtain ⟨w, p⟩ := hev.phiL_le Lmax hwf s.granted
      rw [← hnow] at w p
      obtain ⟨i1, i2⟩ := ih (nstep s (.poll pid dt)) w hops
      exact ⟨i1, Nat.le_trans i2 (bound_poll p)⟩
    | setLimit k =>
      obtain ⟨w, p⟩ := setLimit_phiL Lmax s.net.cur.limiter s.net.now s.granted k hwf hops.1
      rw [← Net.setLimit_cur] at w p
      obtain ⟨i1, i2⟩ := ih (nstep s (.setLimit k)) w hops.2
      exact ⟨i1, Nat.le_trans i2 (bound_change p)⟩

/-- consecutive polls of a single limiter; returns final limiter, clock and the sum of grants -/
def polls : Lim → Nat → List Nat → Lim × Nat × Nat
  | l, now, [] => (l, now, 0)
  | l, now, dt :: r =>
    let p := poll l (now + dt)
    let q := polls p.1 (now + dt) r
    (q.1, q.2.1, p.2 + q.2.2)

/-- What an empty poll earns. `897 = 1024 − 127`: the bucket stays below one quantum (128), so at a limit of at least
1024 B/s at least 897 tokens are missing and `dt` ticks are credited `897·dt/1024` of them; `1023`: the division loses
less than one token, i.e. less than 1024 of the scaled units. -/
theorem poll_empty_step (l : Lim) (now dt : Nat) (hwf : l.WF now) (hL : 1024 ≤ l.L)
    (hz : (poll l (now + dt)).2 = 0) :
    (poll l (now + dt)).1.WF (now + dt) ∧ (poll l (now + dt)).1.L = l.L ∧
    l.bucket ≤ (poll l (now + dt)).1.bucket ∧ (poll l (now + dt)).1.bucket < 128 ∧
    897 * dt ≤ 1024 * ((poll l (now + dt)).1.bucket - l.bucket) + 1023 := by
  obtain ⟨hb, hl, hq⟩ := hwf
  obtain ⟨he, hp⟩ := poll_eq_zero hz hb
  have he : l.bucket + credit l (now + dt) < 128 := he    -- `minBucket` unfolds to 128
  have hroom : 897 ≤ l.L - l.bucket := by omega
  have h1 : 897 * dt ≤ (l.L - l.bucket) * (now + dt - l.last) := Nat.mul_le_mul hroom (by omega)
  have hc := credit_scaled_ge l (now + dt)
  rw [hp]
  generalize credit l (now + dt) = c at *
  generalize (l.L - l.bucket) * (now + dt - l.last) = X at *
  refine ⟨⟨?_, Nat.le_refl _, hq⟩, rfl, Nat.le_add_right _ _, he, ?_⟩ <;> dsimp only <;> omega

/-- `hg`: the bound of `poll_empty_step` -/
theorem gain_of_gap {dt b b' : Nat} (hd : 10 ≤ dt) (hg : 897 * dt ≤ 1024 * (b' - b) + 1023) : b + 8 ≤ b' := by omega

theorem polls_empty (dts : List Nat) : ∀ (l : Lim) (now : Nat), l.WF now → 1024 ≤ l.L → (polls l now dts).2.2 = 0 →
    (polls l now dts).1.WF (polls l now dts).2.1 ∧ (polls l now dts).1.L = l.L ∧
    l.bucket ≤ (polls l now dts).1.bucket ∧ (dts ≠ [] → (polls l now dts).1.bucket < 128) ∧
    897 * dts.sum ≤ 1024 * ((polls l now dts).1.bucket - l.bucket) + 1023 * dts.length := by
  induction dts with
  | nil => exact fun l now hwf _ _ => ⟨hwf, rfl, Nat.le_refl _, fun h => absurd rfl h, Nat.zero_le _⟩
  | cons dt r ih =>
    intro l now hwf hL hz
    have hz := Nat.add_eq_zero_iff.1 hz
    obtain ⟨w, e, m, b, g⟩ := poll_empty_step l now dt hwf hL hz.1
    obtain ⟨w', e', m', b', g'⟩ := ih _ _ w (Nat.le_trans hL (Nat.le_of_eq e.symm)) hz.2
    refine ⟨w', e'.trans e, Nat.le_trans m m', fun _ => ?_, ?_⟩
    · cases r with
      | nil => exact b
      | cons d r => exact b' (List.cons_ne_nil d r)
    rw [List.sum_cons, List.length_cons]
    show _ ≤ 1024 * ((polls (poll l (now + dt)).1 (now + dt) r).1.bucket - l.bucket) + _
    omega

theorem polls_starved (dts : List Nat) : ∀ (l : Lim) (now : Nat), l.WF now → 1024 ≤ l.L →
    (∀ d ∈ dts, 10 ≤ d) → (polls l now dts).2.2 = 0 → l.bucket + 8 * dts.length ≤ (polls l now dts).1.bucket := by
  induction dts with
  | nil => exact fun _ _ _ _ _ _ => Nat.le_refl _
  | cons dt r ih =>
    intro l now hwf hL hd hz
    have hz := Nat.add_eq_zero_iff.1 hz
    obtain ⟨w, e, _, _, g⟩ := poll_empty_step l now dt hwf hL hz.1
    have ih := ih _ _ w (Nat.le_trans hL (Nat.le_of_eq e.symm)) (fun d h => hd d (List.mem_cons_of_mem _ h)) hz.2
    have := gain_of_gap (hd dt List.mem_cons_self) g
    rw [List.length_cons]
    show _ ≤ (polls (poll l (now + dt)).1 (now + dt) r).1.bucket
    omega

/-- polls in blocks of four (up to four pollers, each waiting ≥ INTERVAL between its own polls:
any four consecutive gaps then add up to ≥ 10 ticks) -/
def blockPolls : Lim → Nat → List (Nat × Nat × Nat × Nat) → Lim × Nat × Nat
  | l, now, [] => (l, now, 0)
  | l, now, (d1, d2, d3, d4) :: r =>
    let p := polls l now [d1, d2, d3, d4]
    let q := blockPolls p.1 p.2.1 r
    (q.1, q.2.1, p.2.2 + q.2.2)

/-- `5`: by `polls_empty` a block gains `Δ` with `897·10 ≤ 1024·Δ + 4·1023`. The bucket stays below one quantum
(below `l.bucket + 1` if there is no block at all). -/
theorem blocks_starved (bs : List (Nat × Nat × Nat × Nat)) : ∀ (l : Lim) (now : Nat), l.WF now → 1024 ≤ l.L →
    (∀ b ∈ bs, 10 ≤ b.1 + b.2.1 + b.2.2.1 + b.2.2.2) → (blockPolls l now bs).2.2 = 0 →
    l.bucket + 5 * bs.length ≤ (blockPolls l now bs).1.bucket ∧
      (blockPolls l now bs).1.bucket < max 128 (l.bucket + 1) := by
  induction bs with
  | nil => exact fun l _ _ _ _ _ => ⟨Nat.le_refl _, Nat.lt_of_lt_of_le (Nat.lt_succ_self _) (Nat.le_max_right _ _)⟩
  | cons b r ih =>
    obtain ⟨d1, d2, d3, d4⟩ := b
    intro l now hwf hL hd hz
    have hz := Nat.add_eq_zero_iff.1 hz
    obtain ⟨w, e, m, b, g⟩ := polls_empty [d1, d2, d3, d4] l now hwf hL hz.1
    obtain ⟨ih, b'⟩ := ih _ _ w (Nat.le_trans hL (Nat.le_of_eq e.symm)) (fun b h => hd b (List.mem_cons_of_mem _ h)) hz.2
    have : 10 ≤ d1 + d2 + d3 + d4 := hd _ List.mem_cons_self
    simp only [List.sum_cons, List.sum_nil, List.length_cons, List.length_nil] at g
    have b := b (List.cons_ne_nil _ _)
    exact ⟨Nat.le_trans (by rw [List.length_cons]; omega) ih,
      Nat.lt_of_lt_of_le b' (Nat.le_trans (Nat.max_le.2 ⟨Nat.le_refl _, b⟩) (Nat.le_max_left _ _))⟩

/-- `⌈(128 − bucket)/8⌉`: how many more empty polls of the lock holder fit below one quantum when each gains at least
8 tokens (`gain_of_gap`); at most `⌈128/8⌉ = 16`. -/
def rem (l : Lim) : Nat := (135 - l.bucket) / 8

theorem rem_le (l : Lim) : rem l ≤ 16 := by unfold rem; omega

theorem rem_pos {l : Lim} (h : l.bucket < 128) : 1 ≤ rem l := by unfold rem; omega

theorem rem_drop {l l' : Lim} (hb : l'.bucket < 128) (hg : l.bucket + 8 ≤ l'.bucket) : rem l' + 1 ≤ rem l := by
  unfold rem; omega

/-- every wake-up comes at least 10 ticks after the previous poll of that holder -/
def Disciplined : List LOp → Prop
  | [] => True
  | .wake dt :: r => 10 ≤ dt ∧ Disciplined r
  | .arrive _ _ :: r => Disciplined r

def wakes : List LOp → Nat
  | [] => 0
  | .wake _ :: r => 1 + wakes r
  | .arrive _ _ :: r => wakes r

/-- Last clause: the holder kept the lock because its poll was empty, which leaves the bucket below one quantum. -/
def LInv (s : LockRun) : Prop :=
  s.o.Tidy ∧ s.o.lim.WF s.now ∧ 1024 ≤ s.o.lim.L ∧ (s.o.holder ≠ none → s.o.lim.bucket < 128)

theorem cascade_bucket (now : Nat) (q : List Nat) : ∀ (lim : Lim),
    (cascade lim now q).1.holder ≠ none → (cascade lim now q).1.lim.bucket < minBucket := by
  induction q with
  | nil => exact fun _ h => absurd rfl h
  | cons p q ih =>
    intro lim
    by_cases hz : (poll lim now).2 = 0
    · rw [cascade_cons_zero hz]
      exact fun _ => poll_zero_bucket lim now hz
    · rw [cascade_cons_pos hz]
      exact ih _

theorem cascade_linv (now : Nat) (q : List Nat) (lim : Lim) (hwf : lim.WF now) (hL : 1024 ≤ lim.L) :
    (cascade lim now q).1.Tidy ∧ (cascade lim now q).1.lim.WF now ∧ 1024 ≤ (cascade lim now q).1.lim.L ∧
      ((cascade lim now q).1.holder ≠ none → (cascade lim now q).1.lim.bucket < 128) := by
  obtain ⟨w, e, _⟩ := (cascade_polled now q lim).phi_le lim.L hwf (Nat.le_refl _) 0
  exact ⟨(cascade_spec now q lim).2, w, Nat.le_trans hL (Nat.le_of_eq e.symm), cascade_bucket now q lim⟩

theorem arrive_held (s : LockRun) (p dt h : Nat) (hh : s.o.holder = some h) (hi : LInv s) :
    LInv (lstep s (.arrive p dt)) ∧ (lstep s (.arrive p dt)).served = s.served ∧
    (lstep s (.arrive p dt)).o.lim = s.o.lim := by
  obtain ⟨_, hwf, hL, hb⟩ := hi
  simp only [lstep, LObj.arrive, hh, List.append_nil]
  exact ⟨⟨fun hn => by simp at hn, hwf.mono (Nat.le_add_right _ _), hL, fun _ => hb (by simp [hh])⟩, trivial, trivial⟩

theorem wake_progress (s : LockRun) (dt h : Nat) (hh : s.o.holder = some h) (hi : LInv s) (hd : 10 ≤ dt) :
    LInv (lstep s (.wake dt)) ∧
    (s.served.length < (lstep s (.wake dt)).served.length ∨
      (lstep s (.wake dt)).served = s.served ∧ rem (lstep s (.wake dt)).o.lim + 1 ≤ rem s.o.lim) := by
  obtain ⟨_, hwf, hL, _⟩ := hi
  simp only [lstep, holderPoll_some hh]
  refine ⟨cascade_linv _ _ _ (hwf.mono (Nat.le_add_right _ _)) hL, ?_⟩
  by_cases hz : (poll s.o.lim (s.now + dt)).2 = 0
  · rw [cascade_cons_zero hz]
    obtain ⟨_, _, _, hb', hg⟩ := poll_empty_step s.o.lim s.now dt hwf hL hz
    exact .inr ⟨List.append_nil _, rem_drop hb' (gain_of_gap hd hg)⟩
  · rw [cascade_cons_pos hz]
    exact .inl (by rw [List.length_append, List.length_cons]; omega)

theorem served_mono (ops : List LOp) : ∀ s : LockRun, s.served.length ≤ (lrun s ops).served.length := by
  induction ops with
  | nil => exact fun _ => Nat.le_refl _
  | cons op r ih =>
    intro s
    refine Nat.le_trans ?_ (ih (lstep s op))
    cases op <;> simp only [lstep, List.length_append] <;> omega

/-- a request that has arrived and has not been served holds the lock or waits behind its holder -/
theorem holder_of_pending {s : LockRun} {idx : Nat} (hi : LInv s) (hf : s.served ++ waitingList s.o = s.arrivals)
    (h1 : s.served.length ≤ idx) (h2 : idx < s.arrivals.length) :
    ∃ h, s.o.holder = some h ∧ 1 ≤ rem s.o.lim := by
  cases hh : s.o.holder with
  | none =>
    simp only [waitingList, hh, hi.1 hh, Option.toList_none, List.append_nil] at hf
    rw [← hf] at h2
    omega
  | some h =>
    exact ⟨h, rfl, rem_pos (hi.2.2.2 (by rw [hh]; nofun))⟩

/-- Potential `16·(requests ahead of idx) + rem`: a wake-up serves somebody or lowers `rem` (`wake_progress`), an arrival
changes neither. -/
theorem bounded_wait_aux (idx : Nat) (ops : List LOp) : ∀ s : LockRun, LInv s →
    s.served ++ waitingList s.o = s.arrivals → s.served.length ≤ idx → idx < s.arrivals.length →
    Disciplined ops → 16 * (idx - s.served.length) + rem s.o.lim ≤ wakes ops →
    idx < (lrun s ops).served.length := by
  induction ops with
  | nil =>
    intro s hi hf h1 h2 _ hw
    obtain ⟨_, _, hrem⟩ := holder_of_pending hi hf h1 h2
    rw [wakes] at hw
    omega
  | cons op r ih =>
    intro s hi hf h1 h2 hd hw
    obtain ⟨h, hh, hrem⟩ := holder_of_pending hi hf h1 h2
    have hf' := (lstep_fifo s op hi.1 hf).1
    show idx < (lrun (lstep s op) r).served.length
    cases op with
    | arrive p dt =>
      obtain ⟨a1, a2, a3⟩ := arrive_held s p dt h hh hi
      refine ih _ a1 hf' (a2 ▸ h1) ?_ hd (by rw [a2, a3]; exact hw)
      show idx < (s.arrivals ++ [p]).length
      rw [List.length_append]
      omega
    | wake dt =>
      obtain ⟨w1, w2⟩ := wake_progress s dt h hh hi hd.1
      rw [wakes] at hw
      by_cases hserved : idx < (lstep s (.wake dt)).served.length
      · exact Nat.lt_of_lt_of_le hserved (served_mono r _)
      · refine ih _ w1 hf' (by omega) h2 hd.2 ?_
        rcases w2 with hlen | ⟨hs, hrem'⟩
        · have := rem_le (lstep s (.wake dt)).o.lim
          omega
        · rw [hs]; omega

theorem sum_set_add (l : List Nat) : ∀ (c n : Nat), c < l.length → (l.set c n).sum + l.getD c 0 = l.sum + n := by
  induction l with
  | nil => exact fun _ _ h => absurd h (Nat.not_lt_zero _)
  | cons x l ih =>
    intro c n h
    cases c with
    | zero => simp only [List.set_cons_zero, List.sum_cons, List.getD_cons_zero]; omega
    | succ c =>
      have := ih c n (Nat.lt_of_succ_lt_succ h)
      simp only [List.set_cons_succ, List.sum_cons, List.getD_cons_succ]
      omega

theorem getD_le_sum : ∀ (l : List Nat) (c : Nat), l.getD c 0 ≤ l.sum := by
  intro l
  induction l with
  | nil => exact fun _ => Nat.le_refl _
  | cons x l ih =>
    intro c
    cases c with
    | zero => exact Nat.le_add_right _ _
    | succ c => exact Nat.le_trans (ih c) (Nat.le_add_left _ _)

/-- `moved + holding.sum − granted` never grows: a grant adds to `holding` at most what it adds to `granted`, a read
moves at most what the connection holds. -/
theorem xstep_inv (s : XSt) (e : XEv) :
    (xstep s e).moved + (xstep s e).holding.sum + s.granted ≤ (xstep s e).granted + s.moved + s.holding.sum := by
  cases e with
  | grant c n =>
    simp only [xstep]
    split
    · have := sum_set_add s.holding c n ‹_›
      dsimp only; omega
    · omega
  | move c m =>
    simp only [xstep]
    split
    · have := sum_set_add s.holding c 0 ‹_›
      dsimp only; omega
    · omega

theorem xrun_inv (evs : List XEv) (s : XSt) :
    (xrun s evs).moved + (xrun s evs).holding.sum + s.granted ≤ (xrun s evs).granted + s.moved + s.holding.sum :=
  List.foldlRecOn (motive := fun x => x.moved + x.holding.sum + s.granted ≤ x.granted + s.moved + s.holding.sum)
    evs xstep (by omega) fun x hx e _ => by
      have := xstep_inv x e
      omega

theorem sum_le_of_all_le (l : List Nat) (g : Nat) (h : ∀ x ∈ l, x ≤ g) : l.sum ≤ l.length * g := by
  induction l with
  | nil => exact Nat.zero_le _
  | cons x l ih =>
    rw [List.sum_cons, List.length_cons, Nat.succ_mul, Nat.add_comm]
    exact Nat.add_le_add (ih fun y hy => h y (List.mem_cons_of_mem _ hy)) (h x List.mem_cons_self)

def NObj.waiting : NObj → List Nat
  | .unlimited _ _ => []
  | .limited o => waitingList o

/-- every request that holds or waits for the lock of some limiter object, replaced objects first -/
def pendingAll (olds : List NObj) (cur : NObj) : List Nat := olds.flatMap NObj.waiting ++ cur.waiting

theorem waiting_limited (o : LObj) : (NObj.limited o).waiting = waitingList o := rfl
theorem waiting_unlimited (b l : Nat) : (NObj.unlimited b l).waiting = [] := rfl

theorem pendingAll_cons (x : NObj) (olds : List NObj) (cur : NObj) :
    pendingAll (x :: olds) cur = x.waiting ++ pendingAll olds cur := by
  simp [pendingAll]

theorem pendingAll_append (xs olds : List NObj) (cur : NObj) :
    pendingAll (xs ++ olds) cur = xs.flatMap NObj.waiting ++ pendingAll olds cur := by
  simp [pendingAll]

theorem enterCur_perm (p now : Nat) (c : NObj) :
    ((fateGrants p (enterCur p now c).2).map (·.1) ++ (enterCur p now c).1.waiting).Perm (c.waiting ++ [p]) := by
  cases c with
  | unlimited b l => exact .refl _
  | limited o =>
    obtain ⟨lim, holder, queue⟩ := o
    cases holder with
    | some h => exact .refl _
    | none =>
      by_cases hz : (poll lim now).2 = 0 <;> simp only [enterCur, hz, if_true, if_false] <;>
        exact List.perm_append_comm (l₁ := [p])

theorem enterChain_perm (p now : Nat) (olds : List NObj) (cur : NObj) :
    ((fateGrants p (enterChain p now olds cur).2.2).map (·.1) ++
        pendingAll (enterChain p now olds cur).1 (enterChain p now olds cur).2.1).Perm (pendingAll olds cur ++ [p]) := by
  induction olds with
  | nil => simpa [enterChain, pendingAll] using enterCur_perm p now cur
  | cons x rest ih =>
    rw [pendingAll_cons, List.append_assoc]
    cases x with
    | unlimited b l => exact ih
    | limited o =>
      obtain ⟨lim, holder, queue⟩ := o
      cases holder with
      | some h =>
        simp only [enterChain, fateGrants_queued, List.map_nil, List.nil_append, pendingAll_cons, waiting_limited,
          waitingList, Option.toList_some, List.append_assoc]
        exact (List.perm_append_comm.append_left _).append_left _
      | none =>
        simp only [enterChain, pendingAll_cons]
        exact (List.perm_append_comm_assoc _ _ _).trans (ih.append_left _)

theorem enterAll_perm (now : Nat) (ps : List Nat) : ∀ (olds : List NObj) (cur : NObj),
    ((enterAll now ps olds cur).2.2.map (·.1) ++
        pendingAll (enterAll now ps olds cur).1 (enterAll now ps olds cur).2.1).Perm (pendingAll olds cur ++ ps) := by
  induction ps with
  | nil => exact fun olds cur => by simp [enterAll]
  | cons p ps ih =>
    intro olds cur
    rw [enterAll_cons, List.map_append, List.append_assoc]
    -- served(p) ++ (served(ps) ++ pending'') ~ served(p) ++ (pending' ++ ps) ~ (pending ++ [p]) ++ ps
    refine ((ih _ _).append_left _).trans ?_
    rw [← List.append_assoc]
    exact ((enterChain_perm p now olds cur).append_right ps).trans (by simp)

theorem wakeCur_perm (now : Nat) (c : NObj) :
    ((wakeCur now c).2.map (·.1) ++ (wakeCur now c).1.waiting).Perm c.waiting := by
  cases c with
  | unlimited b l => exact .refl _
  | limited o =>
    have hm : ((o.holderPoll now).2.map (·, minBucket)).map (·.1) = (o.holderPoll now).2 := by
      simp [List.map_map, Function.comp_def]
    show ((((o.holderPoll now).2.map (·, minBucket)).map (·.1)) ++ waitingList (o.holderPoll now).1).Perm (waitingList o)
    rw [hm, holderPoll_waiting]

theorem wakeOld_perm (now i : Nat) (olds : List NObj) (cur : NObj) :
    ((wakeOld now i olds cur).2.2.map (·.1) ++ pendingAll (wakeOld now i olds cur).1 (wakeOld now i olds cur).2.1).Perm
      (pendingAll olds cur) := by
  unfold wakeOld
  split
  · rename_i o ho
    obtain ⟨hi, hx⟩ := List.getElem?_eq_some_iff.1 ho
    have he := enterAll_perm now (o.holder.toList ++ o.queue) (olds.drop (i + 1)) cur
    -- the movers leave `olds[i]` and enter the chain behind it; what comes before `olds[i]` stays
    conv => rhs; rw [← List.take_append_drop i olds, ← List.getElem_cons_drop hi, hx]
    simp only [List.append_assoc, pendingAll_append, pendingAll_cons, waiting_limited, List.flatMap_cons,
      List.flatMap_nil]
    refine (List.perm_append_comm_assoc _ _ _).trans ((he.trans List.perm_append_comm).append_left _)
  · exact .refl _

structure NGhost where
  net : Net
  arrivals : List Nat        -- ghost: pollers in the order of their `take_tokens()` calls
  served : List Nat          -- ghost: pollers in the order in which they were granted tokens

def gstep (s : NGhost) : NOp → NGhost
  | .poll pid dt =>
    let r := s.net.poll pid dt
    { net := r.1,
      arrivals := if (findPending pid s.net.objs 0).isNone then s.arrivals ++ [pid] else s.arrivals,
      served := s.served ++ r.2.map (·.1) }
  | .setLimit k => { s with net := s.net.setLimit k }

def grun (s : NGhost) (ops : List NOp) : NGhost := ops.foldl gstep s

def NGhost.Inv (s : NGhost) : Prop := (s.served ++ pendingAll s.net.olds s.net.cur).Perm s.arrivals

theorem gstep_inv (s : NGhost) (op : NOp) (h : s.Inv) : (gstep s op).Inv := by
  unfold NGhost.Inv at h ⊢
  cases op with
  | setLimit k =>
    simp only [gstep, Net.setLimit]
    cases Rate.setLimit s.net.cur.limiter k <;>
      simpa [pendingAll, List.flatMap_append, waiting_limited, waiting_unlimited, waitingList] using h
  | poll pid dt =>
    simp only [gstep, Net.poll]
    split
    · split
      · rw [if_neg (by simp [*]), List.append_assoc]
        exact ((wakeOld_perm (s.net.now + dt) _ s.net.olds s.net.cur).append_left _).trans h
      · rw [if_neg (by simp [*]), List.append_assoc]
        refine ((List.perm_append_comm_assoc _ _ _).append_left _).trans ?_
        exact (((wakeCur_perm (s.net.now + dt) s.net.cur).append_left _).append_left _).trans h
    · rw [if_neg (by simp [*])]
      simpa using h
    · rw [if_pos (by simp [*]), List.append_assoc]
      -- served ++ (granted ++ (olds… ++ cur'…)) ~ served ++ (olds… ++ (cur… ++ [pid])) ~ arrivals ++ [pid]
      refine ((List.perm_append_comm_assoc _ _ _).append_left _).trans ?_
      refine (((enterCur_perm pid (s.net.now + dt) s.net.cur).append_left _).append_left _).trans ?_
      rw [← List.append_assoc, ← List.append_assoc]
      exact (List.append_assoc _ _ _ ▸ h).append_right _

theorem grun_inv (ops : List NOp) (s : NGhost) (h : s.Inv) : (grun s ops).Inv :=
  List.foldlRecOn (motive := NGhost.Inv) ops gstep h fun s hs op _ => gstep_inv s op hs
end AioslskVerif.Rate
