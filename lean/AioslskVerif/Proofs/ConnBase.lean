import AioslskVerif.Model.Conn
/-!
The control state `K` of a connection and the op alphabet `FOp` are finite.  `tableFor` checks, for every well-formed
control state (`good`) and every fine-grained op — completions, API calls, and the four ops that let a state
notification's listeners return or suspend —, that the successor is well-formed and that the events the step emits
continue a legal event history (`track`).  It is decided by kernel evaluation in `Proofs/ConnTable1..2.lean`, over all
values of the fields of `K`, cut down as the fields become known by the parts of `wf`, the form of `good` that the
kernel evaluates cheaply (`wf_eq`).
-/
namespace AioslskVerif.Conn

def allBool : List Bool := [false, true]
def allOrigin : List Origin := [.direct, .back, .incoming, .server]
def allCState : List CState := [.uninit, .connecting, .connected, .closing, .closed]
def allAtt : List Att := [.noteConnecting, .opening, .noteConnected, .sendingInit, .awaitInit, .closing, .idle, .idleQuiet]
def allCloser : List Closer := [.none, .other, .attempt, .attemptC, .sender, .queue, .queueC]
def allCPhase : List CPhase := [.noteClosing, .noteClosingNW, .waiting, .noteClosed]
def allMode : List SendMode := [.ok, .block, .fail]
def allFirst : List First := [.initP, .initF, .pierceP, .pierceF, .pierceUnknown, .undecodable]
def allReason : List Reason := [.unknown, .connectFailed, .requested, .readError, .writeError, .timeout, .eof]

def allCOp : List COp :=
  [.connectOk .ok, .connectOk .block, .connectOk .fail, .connectFail, .connectTimeout, .cancelAttempt,
   .firstFrame .initP, .firstFrame .initF, .firstFrame .pierceP, .firstFrame .pierceF, .firstFrame .pierceUnknown,
   .firstFrame .undecodable, .frame false, .frame true, .partialEof, .eof, .reset, .readTimeout, .closeDone,
   .disconnect .unknown, .disconnect .connectFailed, .disconnect .requested, .disconnect .readError,
   .disconnect .writeError, .disconnect .timeout, .disconnect .eof, .send .ok, .send .block, .send .fail, .drainOk,
   .sendTimeout false, .sendTimeout true, .restart, .queue .ok, .queue .block, .queue .fail, .queueTimeout,
   .sendData .ok, .sendData .block, .sendData .fail, .recvData, .data]

def allFOp : List FOp := allCOp.map .op ++ [.noteA .ok, .noteA .block, .noteA .fail, .noteC, .parkA, .parkC]

theorem mem_allBool (b : Bool) : b ∈ allBool := by cases b <;> decide
theorem mem_allOrigin (x : Origin) : x ∈ allOrigin := by cases x <;> decide
theorem mem_allCState (x : CState) : x ∈ allCState := by cases x <;> decide
theorem mem_allAtt (x : Att) : x ∈ allAtt := by cases x <;> decide
theorem mem_allCloser (x : Closer) : x ∈ allCloser := by cases x <;> decide
theorem mem_allCPhase (x : CPhase) : x ∈ allCPhase := by cases x <;> decide
theorem mem_allMode (x : SendMode) : x ∈ allMode := by cases x <;> decide
theorem mem_allFirst (x : First) : x ∈ allFirst := by cases x <;> decide
theorem mem_allReason (x : Reason) : x ∈ allReason := by cases x <;> decide

theorem mem_allCOp (op : COp) : op ∈ allCOp := by
  cases op with
  | connectOk m | send m | queue m | sendData m => cases m <;> decide
  | frame b | sendTimeout b => cases b <;> decide
  | firstFrame f => cases f <;> decide
  | disconnect r => cases r <;> decide
  | _ => decide

theorem mem_allFOp (op : FOp) : op ∈ allFOp := by
  cases op with
  | op o => exact List.mem_append_left _ (List.mem_map_of_mem (mem_allCOp o))
  | noteA m => cases m <;> decide
  | _ => decide

abbrev Skel := Origin × CState × Att
abbrev Desc := Closer × CPhase × Reason
abbrev Bits := Bool × Bool × Bool × Bool      -- reader, sock, sendParked, qParked

def K.skel (k : K) : Skel := (k.origin, k.st, k.att)
def K.desc (k : K) : Desc := (k.closer, k.cph, k.cr)
def K.bits (k : K) : Bits := (k.reader, k.sock, k.sendParked, k.qParked)

/-- origin, reported state and the position of the attempt / accept handler -/
def gA : Skel → Bool
  | (o, st, att) =>
    st != .uninit &&
    (!(att == .noteConnecting || att == .opening) ||
      ((st == .connecting || st == .closing || st == .closed) && o != .incoming)) &&
    (st != .connecting || att == .noteConnecting || att == .opening) &&
    (att != .sendingInit || ((o == .direct || o == .back) && (st == .connected || st == .closing))) &&
    (att != .awaitInit || (o == .incoming && (st == .connected || st == .closing))) &&
    (att != .idleQuiet || ((o == .direct || o == .back) && (st == .closing || st == .closed))) &&
    (att != .closing || ((st == .closing || st == .closed) && o != .incoming))

/-- the task that runs `disconnect` past its guard -/
def gB : Skel → Desc → Bool
  | (_, st, att), (cl, ph, cr) =>
    (cl != .none || (ph == .noteClosed && cr == .unknown && st != .closing)) &&
    (cl == .none || (if ph == .noteClosed then st == .closed else st == .closing)) &&
    ((att == .closing) == (cl == .attempt || cl == .attemptC)) &&
    (!(att == .noteConnecting || att == .opening) || cl == .none || ph == .noteClosingNW || ph == .noteClosed) &&
    (!((att == .sendingInit || att == .awaitInit) && st == .closing) || ph == .noteClosing) &&
    (cl != .queueC || ph == .noteClosed) &&
    -- the reason a task closes the connection with
    (!(cl == .attempt) || cr == .connectFailed || cr == .writeError || cr == .timeout) &&
    (!(cl == .attemptC) || cr == .connectFailed || cr == .requested || cr == .writeError || cr == .timeout) &&
    (!(cl == .sender || cl == .queue || cl == .queueC) || cr == .writeError || cr == .timeout)

/-- who is parked on the socket -/
def gC : Skel → Desc → Bits → Bool
  | (_, st, att), (_, ph, _), (reader, sock, sendParked, qParked) =>
    (st != .connected || sock) &&
    (!sock || st == .connected || (st == .closing && ph == .noteClosing)) &&
    (!(att == .sendingInit || att == .awaitInit) || sock) &&
    (!reader || (sock && att.over)) &&
    (!sendParked || sock) &&
    (!qParked || st == .connected || (st == .closing && ph == .noteClosing))

def regOf (o : Origin) (st : CState) : Bool := o != .server && st != .closed

def good (k : K) : Bool :=
  gA k.skel && gB k.skel k.desc && gC k.skel k.desc k.bits && (k.registered == regOf k.origin k.st)

/-! The kernel evaluates `good` on every successor of every state of the step table.  A comparison `a == b` through the
derived `DecidableEq` costs it several times what a `match` on the constructor does, so the table uses the forms
below (`wf`); `wf_eq` compares each with the Boolean formula above, over the fields the formula reads. -/

/-- `gA`, by the position of the attempt -/
def skelOK (o : Origin) (st : CState) (att : Att) : Bool :=
  match att with
  | .noteConnecting | .opening => !(o matches .incoming) && (st matches .connecting | .closing | .closed)
  | .noteConnected | .idle => (st matches .connected | .closing | .closed)
  | .sendingInit => (o matches .direct | .back) && (st matches .connected | .closing)
  | .awaitInit => (o matches .incoming) && (st matches .connected | .closing)
  | .idleQuiet => (o matches .direct | .back) && (st matches .closing | .closed)
  | .closing => !(o matches .incoming) && (st matches .closing | .closed)

/-- `gB`, its third clause -/
def closerOK (att : Att) : Closer → Bool
  | .attempt | .attemptC => (att matches .closing)
  | _ => !(att matches .closing)

/-- `gB`, clauses 1 (but for `cr`), 2 and 4–6.  Clause 5 speaks of CLOSING only: in the last phase CLOSED has been
reported, so `noteClosed` stands beside `noteClosing` here. -/
def phaseOK (st : CState) (att : Att) (cl : Closer) (ph : CPhase) : Bool :=
  match cl with
  | .none => (ph matches .noteClosed) && !(st matches .closing)
  | cl =>
    (match ph with
     | .noteClosed => (st matches .closed)
     | _ => (st matches .closing) && !(cl matches .queueC)) &&
    (match att with
     | .noteConnecting | .opening => (ph matches .noteClosingNW | .noteClosed)
     | .sendingInit | .awaitInit => (ph matches .noteClosing | .noteClosed)
     | _ => true)

/-- `gB`, what it says of `cr` -/
def reasonOK : Closer → Reason → Bool
  | .none, r => (r matches .unknown)
  | .other, _ => true
  | .attempt, r => (r matches .connectFailed | .writeError | .timeout)
  | .attemptC, r => (r matches .connectFailed | .requested | .writeError | .timeout)
  | _, r => (r matches .writeError | .timeout)

/-- `gC`, by whether there is a socket: always when CONNECTED; possibly while the CLOSING notification is outstanding
(`half`: the writer has not been touched yet); otherwise never, and then nothing can be parked on it -/
def bitsOK (st : CState) (att : Att) (ph : CPhase) (reader sock sendParked qParked : Bool) : Bool :=
  let readerOK := !reader || (att matches .idle | .idleQuiet)
  let half := match st, ph with | .closing, .noteClosing => true | _, _ => false
  match st, sock with
  | .connected, s => s && readerOK
  | _, true => half && readerOK
  | _, false => !(att matches .sendingInit | .awaitInit) && !reader && !sendParked && (!qParked || half)

def regd : Origin → CState → Bool
  | .server, _ | _, .closed => false
  | _, _ => true

def wf (k : K) : Bool :=
  skelOK k.origin k.st k.att && closerOK k.att k.closer && phaseOK k.st k.att k.closer k.cph && reasonOK k.closer k.cr &&
    bitsOK k.st k.att k.cph k.reader k.sock k.sendParked k.qParked && (k.registered == regd k.origin k.st)

theorem regd_eq (o : Origin) (st : CState) : regd o st = regOf o st := by
  cases o <;> cases st <;> rfl

theorem wf_eq (k : K) : wf k = good k := by
  -- `gB` and `gC` do not look at the origin, `gC` not at closer and reason
  have h : (allCState.all fun st => allAtt.all fun att =>
      (allOrigin.all fun o => skelOK o st att == gA (o, st, att)) &&
      (allCloser.all fun cl => allCPhase.all fun ph => allReason.all fun cr =>
        (closerOK att cl && phaseOK st att cl ph && reasonOK cl cr) == gB (.direct, st, att) (cl, ph, cr)) &&
      (allCPhase.all fun ph => allBool.all fun a => allBool.all fun b => allBool.all fun c => allBool.all fun d =>
        bitsOK st att ph a b c d == gC (.direct, st, att) (.none, ph, .unknown) (a, b, c, d))) = true := by
    decide +kernel
  simp only [List.all_eq_true, Bool.and_eq_true, beq_iff_eq] at h
  obtain ⟨⟨hA, hB⟩, hC⟩ := h k.st (mem_allCState _) k.att (mem_allAtt _)
  have hA : _ = gA k.skel := hA k.origin (mem_allOrigin _)
  have hB : _ = gB k.skel k.desc := hB k.closer (mem_allCloser _) k.cph (mem_allCPhase _) k.cr (mem_allReason _)
  have hC : _ = gC k.skel k.desc k.bits := hC k.cph (mem_allCPhase _) k.reader (mem_allBool _) k.sock (mem_allBool _)
    k.sendParked (mem_allBool _) k.qParked (mem_allBool _)
  simp only [wf, good, hA, ← hB, ← hC, regd_eq, Bool.and_assoc]

/-- may `t` be reported right after `s`? forward only; the server connection may restart -/
def okNext (o : Origin) (s t : CState) : Bool :=
  s.rank.blt t.rank || (o == .server && s == .closed && t == .connecting)

/-- the reported state after event `e` when `s` was the last reported state; `none` when `e` may not happen then -/
def after (o : Origin) (s : CState) : Ev → Option CState
  | .st t _ => if okNext o s t then some t else none
  | .delivered | .wrote => if s matches .connected then some s else none
  | .wroteRaw | .recvData => if s matches .connected | .closing then some s else none
  | _ => some s

/-- follow an event list from reported state `s`; `none` when it is not a legal history -/
def track (o : Origin) : CState → List Ev → Option CState
  | s, [] => some s
  | s, e :: es => (after o s e).bind fun u => track o u es

/-- connect-back: the peer that asked got a pierce-firewall message, or the server a CannotConnect,
unless the attempt was cancelled -/
def answered : Ev → Bool
  | .wrote | .cc | .attRes .cancelled => true
  | _ => false

/-- the connect-back attempt is over, or has written its pierce message -/
def backDone (k : K) : Bool := k.att matches .idle | .sendingInit

/-- what the table checks of one step.  States and origins are compared through `rank` / `ctorIdx`: `Nat.beq` costs the
kernel less than the derived `DecidableEq`. -/
def stepOK (k : K) (op : FOp) : Bool :=
  match stepF k op with
  | none => true
  | some (k', out) =>
    wf k' && (match track k.origin k.st out with | some s => s.rank.beq k'.st.rank | none => false) &&
    k'.origin.ctorIdx.beq k.origin.ctorIdx &&
    (!(k.origin matches .back) || !backDone k' || backDone k || out.any answered)

/-- the CLOSING notification of the running `disconnect` is outstanding: the writer has not been touched yet -/
def K.closingNotified (k : K) : Bool := k.st == .closing && k.cph == .noteClosing

/-- consequences of `good` that the property theorems use -/
def kFacts (k : K) : Bool :=
  (k.registered == (k.origin != .server && k.st != .closed && k.live)) &&
    (k.live || k.st == .closed) && k.st != .uninit &&
    (k.st == .connected || k.closingNotified || (!k.sendParked && !k.qParked && !k.reader)) &&
    (k.st != .closed || !k.sock)

def entryOK (k : K) : Bool := kFacts k && allFOp.all (stepOK k)

/-- the table of one origin and connection type: every well-formed state passes; the candidates are cut down field
by field, in the order of the parts of `wf` -/
def tableFor (o : Origin) (t : Bool) : Bool :=
  allCState.all fun st => allAtt.all fun att => !skelOK o st att ||
  allCloser.all fun cl => !closerOK att cl || allCPhase.all fun ph => !phaseOK st att cl ph ||
  allReason.all fun cr => !reasonOK cl cr ||
  allBool.all fun reader => allBool.all fun sock => allBool.all fun sendParked => allBool.all fun qParked =>
    !bitsOK st att ph reader sock sendParked qParked ||
  allBool.all fun slow =>
    entryOK { origin := o, typF := t, slow := slow, st := st, att := att, reader := reader, sock := sock, closer := cl,
              cph := ph, cr := cr, sendParked := sendParked, qParked := qParked, registered := regd o st }

/-- Before the kernel evaluates a table, each op's own branch of `stepOp` is put in place of `stepOp k op`: left to
itself the kernel copies the whole of `stepOp` for every state and every op, which alone is a third of its work. -/
macro "unfold_table" : tactic =>
  `(tactic| simp only [tableFor, entryOK, allFOp, allCOp, List.map_cons, List.map_nil, List.cons_append,
      List.nil_append, List.all_cons, List.all_nil, stepOK, stepF, stepOp])

end AioslskVerif.Conn
