import AioslskVerif.Proofs.ConnTable1
import AioslskVerif.Proofs.ConnTable2
/-!
From the step table to reachable nets.  `step_ok` reads one entry of the table; `CInv` — a well-formed control state, a
legal history that ends in the control state's `st`, a finished connect-back answered — then holds of every connection
of every reachable net, an un-suspended op being a finite composition of fine steps (`cinv_settle`).  A legal history
(`track`) of a peer connection reports strictly increasing states, and nothing after CLOSED.
-/
namespace AioslskVerif.Conn

theorem table_ok (o : Origin) (t : Bool) : tableFor o t = true := by
  cases o
  · exact table_direct t
  · exact table_back t
  · exact table_incoming t
  · exact table_server t

theorem table_entry {k : K} (hg : good k = true) : kFacts k = true ∧ ∀ op, stepOK k op = true := by
  rw [← wf_eq] at hg
  simp only [wf, Bool.and_eq_true, beq_iff_eq] at hg
  -- the parts of `wf`, in the order in which `tableFor` cuts the candidates down
  obtain ⟨⟨⟨⟨⟨hskel, hcloser⟩, hphase⟩, hreason⟩, hbits⟩, hreg⟩ := hg
  have ht := table_ok k.origin k.typF
  simp only [tableFor, List.all_eq_true, Bool.or_eq_true, Bool.not_eq_true'] at ht
  have h := (ht k.st (mem_allCState _) k.att (mem_allAtt _)).resolve_left (by simp [hskel])
  have h := (h k.closer (mem_allCloser _)).resolve_left (by simp [hcloser])
  have h := (h k.cph (mem_allCPhase _)).resolve_left (by simp [hphase])
  have h := (h k.cr (mem_allReason _)).resolve_left (by simp [hreason])
  have h := (h k.reader (mem_allBool _) k.sock (mem_allBool _) k.sendParked (mem_allBool _)
    k.qParked (mem_allBool _)).resolve_left (by simp [hbits])
  have h := h k.slow (mem_allBool _)
  rw [← hreg] at h
  simp only [entryOK, Bool.and_eq_true, List.all_eq_true] at h
  exact ⟨h.1, fun op => h.2 op (mem_allFOp op)⟩

theorem rank_inj {a b : CState} (h : a.rank = b.rank) : a = b := by
  cases a <;> cases b <;> first | rfl | (exact absurd h (by decide))

theorem origin_inj {a b : Origin} (h : a.ctorIdx = b.ctorIdx) : a = b := by
  cases a <;> cases b <;> first | rfl | (exact absurd h (by decide))

theorem step_ok {k : K} {op : FOp} {k' : K} {out : List Ev} (hg : good k = true)
    (h : stepF k op = some (k', out)) :
    good k' = true ∧ track k.origin k.st out = some k'.st ∧ k'.origin = k.origin ∧
      (k.origin = .back → backDone k' = true → backDone k = true ∨ out.any answered = true) := by
  have h2 := (table_entry hg).2 op
  simp only [stepOK, h, Bool.and_eq_true, wf_eq] at h2
  obtain ⟨⟨⟨hgood, htrack⟩, horigin⟩, hback⟩ := h2
  refine ⟨hgood, ?_, origin_inj (Nat.eq_of_beq_eq_true horigin), fun hb hd => ?_⟩
  · split at htrack
    next s hs => rw [hs, rank_inj (Nat.eq_of_beq_eq_true htrack)]
    next => cases htrack
  · simpa [hb, hd] using hback

/-- `kFacts` as propositions -/
structure Facts (k : K) : Prop where
  registered_iff : k.registered = true ↔ (k.origin ≠ .server ∧ k.st ≠ .closed ∧ k.live = true)
  closed_of_not_live : k.live = false → k.st = .closed
  ne_uninit : k.st ≠ .uninit
  nothing_parked : k.st ≠ .connected → k.closingNotified = false →
    k.sendParked = false ∧ k.qParked = false ∧ k.reader = false
  no_sock_of_closed : k.st = .closed → k.sock = false

theorem good_facts {k : K} (h : good k = true) : Facts k := by
  have h1 := (table_entry h).1
  simp only [kFacts, Bool.and_eq_true, beq_iff_eq, Bool.or_eq_true, bne_iff_ne, ne_eq, Bool.not_eq_true'] at h1
  obtain ⟨⟨⟨⟨hreg, hlive⟩, hinit⟩, hparked⟩, hsock⟩ := h1
  refine ⟨?_, fun hl => hlive.resolve_left (by simp [hl]), hinit, fun hs hn => ?_,
    fun hc => hsock.resolve_left (not_not_intro hc)⟩
  · rw [hreg]
    simp [Bool.and_eq_true, bne_iff_ne, and_assoc]
  · obtain ⟨⟨hsend, hq⟩, hreader⟩ := hparked.resolve_left fun h => h.elim hs (by simp [hn])
    exact ⟨hsend, hq, hreader⟩

theorem good_closed {k : K} (h : good k = true) (hc : k.st = .closed) : k.registered = false ∧ k.sock = false := by
  refine ⟨?_, (good_facts h).no_sock_of_closed hc⟩
  cases hr : k.registered with
  | false => rfl
  | true => exact absurd hc ((good_facts h).registered_iff.mp hr).2.1

theorem good_noteClosed {k : K} (h : good k = true) (hc : k.closer ≠ .none) (hp : k.cph = .noteClosed) :
    k.st = .closed := by
  simp only [good, gB, K.skel, K.desc, Bool.and_eq_true, and_assoc] at h
  -- the second clause of `gB`
  obtain ⟨-, -, h2, -⟩ := h
  simpa [hp, hc] using h2

theorem states_append (a b : List Ev) : states (a ++ b) = states a ++ states b := by
  induction a with
  | nil => rfl
  | cons e es ih => cases e <;> simp [states, ih]

theorem states_cons (e : Ev) (es : List Ev) : states (e :: es) = states [e] ++ states es :=
  states_append [e] es

theorem track_append (o : Origin) (s : CState) (a b : List Ev) :
    track o s (a ++ b) = (track o s a).bind fun t => track o t b := by
  induction a generalizing s with
  | nil => rfl
  | cons e es ih => cases h : after o s e <;> simp [track, h, ih]

theorem rank_le_four (s : CState) : s.rank ≤ 4 := by cases s <;> decide

theorem okNext_peer {o : Origin} (ho : o ≠ .server) (s t : CState) : okNext o s t = true ↔ s.rank < t.rank := by
  cases o <;> simp_all [okNext]

theorem after_cases {o : Origin} {s u : CState} {e : Ev} (h : after o s e = some u) :
    (states [e] = [] ∧ u = s) ∨ (states [e] = [u] ∧ okNext o s u = true) := by
  cases e with
  | st t r =>
    -- the one event that reports a state
    simp only [after] at h
    split at h
    next hok => cases h; exact .inr ⟨rfl, hok⟩
    next => cases h
  | _ =>
    -- any other event, where it may happen, leaves the reported state as it is
    refine .inl ⟨rfl, ?_⟩
    simp only [after] at h
    try split at h
    all_goals simp_all

theorem after_closed {o : Origin} (ho : o ≠ .server) {u : CState} {e : Ev} (h : after o .closed e = some u) :
    u = .closed ∧ states [e] = [] ∧ e ≠ .delivered ∧ e ≠ .wrote ∧ e ≠ .wroteRaw ∧ e ≠ .recvData := by
  rcases after_cases h with ⟨hs, rfl⟩ | ⟨_, hok⟩
  · -- `after` refuses these four events once CLOSED is reported
    refine ⟨rfl, hs, ?_, ?_, ?_, ?_⟩ <;> (rintro rfl; simp [after] at h)
  · have := (okNext_peer ho _ _).mp hok
    have := rank_le_four u
    simp only [CState.rank] at *
    omega

theorem track_mono {o : Origin} (ho : o ≠ .server) :
    ∀ (evs : List Ev) (s t : CState), track o s evs = some t →
      (states evs).Pairwise (fun a b => a.rank < b.rank) ∧ (∀ x ∈ states evs, s.rank < x.rank) ∧
      s.rank ≤ t.rank ∧ (∀ x ∈ states evs, x.rank ≤ t.rank) := by
  intro evs
  induction evs with
  | nil => intro s t h; cases h; simp [states]
  | cons e es ih =>
    intro s t h
    obtain ⟨u, hu, hes⟩ := Option.bind_eq_some_iff.mp h
    rw [states_cons]
    rcases after_cases hu with ⟨hs, rfl⟩ | ⟨hs, hok⟩
    · simpa [hs] using ih u t hes
    · have hlt := (okNext_peer ho s u).mp hok
      obtain ⟨h1, h2, h3, h4⟩ := ih u t hes
      simp only [hs, List.cons_append, List.nil_append, List.pairwise_cons, List.mem_cons, forall_eq_or_imp]
      exact ⟨⟨h2, h1⟩, ⟨hlt, fun x hx => Nat.lt_trans hlt (h2 x hx)⟩, by omega, h3, h4⟩

theorem track_last (o : Origin) : ∀ (evs : List Ev) (s t : CState), track o s evs = some t →
    t = (states evs).getLast?.getD s := by
  intro evs
  induction evs with
  | nil => intro s t h; cases h; rfl
  | cons e es ih =>
    intro s t h
    obtain ⟨u, hu, hes⟩ := Option.bind_eq_some_iff.mp h
    rw [states_cons, ih u t hes]
    rcases after_cases hu with ⟨hs, rfl⟩ | ⟨hs, _⟩
    · simp [hs]
    · simp [hs, List.getLast?_cons]

theorem last_eq_some {l : List CState} {t : CState} (h : l.getLast?.getD .uninit = t) (ht : t ≠ .uninit) :
    l.getLast? = some t := by
  cases hl : l.getLast? with
  | none => rw [hl] at h; exact absurd h.symm ht
  | some x => rw [hl] at h; rw [← h]; rfl

theorem track_closed {o : Origin} (ho : o ≠ .server) : ∀ (evs : List Ev) (t : CState),
    track o .closed evs = some t →
      t = .closed ∧ states evs = [] ∧ Ev.delivered ∉ evs ∧ Ev.wrote ∉ evs ∧ Ev.wroteRaw ∉ evs ∧ Ev.recvData ∉ evs := by
  intro evs
  induction evs with
  | nil => intro t h; cases h; simp [states]
  | cons e es ih =>
    intro t h
    obtain ⟨u, hu, hes⟩ := Option.bind_eq_some_iff.mp h
    obtain ⟨rfl, hs, h1, h2, h3, h4⟩ := after_closed ho hu
    obtain ⟨it, i0, i1, i2, i3, i4⟩ := ih t hes
    rw [states_cons, hs, i0]
    simp only [List.mem_cons, not_or]
    exact ⟨it, rfl, ⟨Ne.symm h1, i1⟩, ⟨Ne.symm h2, i2⟩, ⟨Ne.symm h3, i3⟩, ⟨Ne.symm h4, i4⟩⟩

theorem answered_iff {e : Ev} : answered e = true ↔ e = .wrote ∨ e = .cc ∨ e = .attRes .cancelled := by
  cases e with
  | attRes r => cases r <;> simp [answered]
  | _ => simp [answered]

structure CInv (c : Conn) : Prop where
  good : good c.k = true
  hist : track c.k.origin .uninit c.evs = some c.k.st
  back : c.k.origin = .back → backDone c.k = true → c.evs.any answered = true

theorem cinv_new (o : Origin) (t s : Bool) : CInv { k := (newK o t s).1, evs := (newK o t s).2 } := by
  cases o
  · exact ⟨rfl, rfl, fun hb => nomatch hb⟩
  · exact ⟨rfl, rfl, fun _ hd => nomatch hd⟩
  · exact ⟨rfl, rfl, fun hb => nomatch hb⟩
  · exact ⟨rfl, rfl, fun hb => nomatch hb⟩

theorem cinv_step {c : Conn} (hc : CInv c) {op : FOp} {k' : K} {out : List Ev}
    (h : stepF c.k op = some (k', out)) : CInv { k := k', evs := c.evs ++ out } := by
  obtain ⟨a, b, co, d⟩ := step_ok hc.good h
  refine ⟨a, ?_, ?_⟩
  · simp only [co, track_append, hc.hist, Option.bind_some]
    exact b
  · intro hb hd
    simp only at hb hd
    rw [co] at hb
    simp only [List.any_append, Bool.or_eq_true]
    rcases d hb hd with d | d
    · exact Or.inl (hc.back hb d)
    · exact Or.inr d

/-- `settle` is a composition of fine steps -/
theorem cinv_settle (m : SendMode) : ∀ (n : Nat) (k : K) (pre e : List Ev), CInv { k := k, evs := pre ++ e } →
    CInv { k := (settle m n (k, e)).1, evs := pre ++ (settle m n (k, e)).2 } := by
  intro n
  induction n with
  | zero => intro k pre e h; simpa [settle] using h
  | succ n ih =>
    intro k pre e h
    have next : ∀ (op : FOp) (k' : K) (e' : List Ev), stepF k op = some (k', e') →
        CInv { k := (settle m n (k', e ++ e')).1, evs := pre ++ (settle m n (k', e ++ e')).2 } := fun op k' e' hop => by
      have h' := cinv_step h hop
      rw [List.append_assoc] at h'
      exact ih k' pre (e ++ e') h'
    simp only [settle]
    split
    · exact next (.noteA m) _ _ ‹_›
    · split
      · exact next .noteC _ _ ‹_›
      · exact h

theorem cinv_stepK {c : Conn} (hc : CInv c) {op : COp} {k' : K} {out : List Ev}
    (h : stepK c.k op = some (k', out)) : CInv { k := k', evs := c.evs ++ out } := by
  simp only [stepK, Option.map_eq_some_iff] at h
  obtain ⟨⟨k1, e1⟩, h1, h2⟩ := h
  have hs := cinv_step hc (op := .op op) (k' := k1) (out := e1) h1
  have := cinv_settle (modeOf op) 8 k1 c.evs e1 hs
  rw [h2] at this
  exact this

theorem inv_step (n : Net) (op : Op) (hn : ∀ c ∈ n.conns, CInv c) : ∀ c ∈ (n.step op).conns, CInv c := by
  intro c hc
  cases op with
  | new o t s =>
    simp only [Net.step, List.mem_append, List.mem_singleton] at hc
    rcases hc with hc | rfl
    · exact hn c hc
    · simpa using cinv_settle .ok 8 (newK o t s).1 [] (newK o t s).2 (by simpa using cinv_new o t s)
  | newF o t s =>
    simp only [Net.step, List.mem_append, List.mem_singleton] at hc
    rcases hc with hc | rfl
    · exact hn c hc
    · exact cinv_new o t s
  | «at» i op | atF i op =>
    simp only [Net.step] at hc
    split at hc
    · exact hn c hc
    · rename_i c0 hget
      split at hc
      · exact hn c hc
      · rename_i k' out hstep
        rcases List.mem_or_eq_of_mem_set hc with hc | rfl
        · exact hn c hc
        · first
          | exact cinv_stepK (hn c0 (List.mem_of_getElem? hget)) hstep
          | exact cinv_step (hn c0 (List.mem_of_getElem? hget)) hstep

theorem inv_run (ops : List Op) : ∀ c ∈ (run ops).conns, CInv c :=
  List.foldlRecOn ops Net.step (motive := fun n => ∀ c ∈ n.conns, CInv c) (fun _ hc => nomatch (hc : _ ∈ []))
    fun n hn op _ => inv_step n op hn

theorem last_state {ops : List Op} {c : Conn} (hc : c ∈ (run ops).conns) : (states c.evs).getLast? = some c.k.st :=
  have hi := inv_run ops c hc
  last_eq_some (track_last _ _ _ _ hi.hist).symm (good_facts hi.good).ne_uninit

theorem hist_split {ops : List Op} {c : Conn} (hc : c ∈ (run ops).conns) {pre post : List Ev} {e : Ev}
    (he : c.evs = pre ++ e :: post) :
    ∃ s u, track c.k.origin .uninit pre = some s ∧ after c.k.origin s e = some u ∧
      track c.k.origin u post = some c.k.st := by
  have h := (inv_run ops c hc).hist
  rw [he, track_append] at h
  obtain ⟨s, hs, h⟩ := Option.bind_eq_some_iff.mp h
  obtain ⟨u, hu, h⟩ := Option.bind_eq_some_iff.mp h
  exact ⟨s, u, hs, hu, h⟩

theorem hist_at {ops : List Op} {c : Conn} (hc : c ∈ (run ops).conns) {pre post : List Ev} {e : Ev}
    (he : c.evs = pre ++ e :: post) : ∃ u, after c.k.origin ((states pre).getLast?.getD .uninit) e = some u := by
  obtain ⟨s, u, hs, hu, _⟩ := hist_split hc he
  exact ⟨u, by rw [← track_last _ _ _ _ hs]; exact hu⟩

/-- the events before (`pre`) and after (`post`) a report of CLOSED in the history of a peer connection -/
structure AroundClosed (pre post : List Ev) : Prop where
  once : CState.closed ∉ states pre
  last : states post = []
  no_delivered : Ev.delivered ∉ post
  no_wrote : Ev.wrote ∉ post
  no_wroteRaw : Ev.wroteRaw ∉ post
  no_recvData : Ev.recvData ∉ post

theorem closed_is_last {ops : List Op} {c : Conn} (hc : c ∈ (run ops).conns) (hp : c.k.origin ≠ .server)
    {pre post : List Ev} {r : Reason} (he : c.evs = pre ++ Ev.st .closed r :: post) : AroundClosed pre post := by
  obtain ⟨s, u, hs, hu, hpost⟩ := hist_split hc he
  simp only [after] at hu
  split at hu
  next hok =>
    cases hu
    obtain ⟨-, h0, h1, h2, h3, h4⟩ := track_closed hp post _ hpost
    refine ⟨fun hmem => ?_, h0, h1, h2, h3, h4⟩
    have hle := (track_mono hp pre .uninit s hs).2.2.2 .closed hmem
    have hlt := (okNext_peer hp s .closed).mp hok
    omega
  next => cases hu

end AioslskVerif.Conn
