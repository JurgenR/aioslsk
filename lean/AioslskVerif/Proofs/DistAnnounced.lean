import AioslskVerif.Proofs.DistSusp
import AioslskVerif.Spec.DistAnnounced
/-! The position the handlers keep on their books for a live connection (`DState.level / root`) is the position that
connection has announced by the protocol's rule (`Spec/DistAnnounced.lean`). -/
namespace AioslskVerif.Dist

def Agree (x : XState) (a : Ann) : Prop :=
  a.next = x.d.nextConn ∧
  ∀ c, x.alive c → x.d.level c = a.level c ∧ x.d.root c = a.root c ∧ x.d.name c = a.name c

theorem Agree.mono {x y : XState} {a : Ann} (h : Agree x a) (h1 : y.d.level = x.d.level) (h2 : y.d.root = x.d.root)
    (h3 : y.d.name = x.d.name) (h4 : y.d.nextConn = x.d.nextConn) (hal : ∀ c, y.alive c → x.alive c) :
    Agree y a := by
  refine ⟨h.1.trans h4.symm, fun c hc => ?_⟩
  rw [h1, h2, h3]
  exact h.2 c (hal c hc)

theorem Sheds.agree {x y : XState} {a : Ann} (hb : Sheds x y) (h : Agree x a) (hnd : x.d.live.Nodup) : Agree y a :=
  h.mono hb.level hb.root hb.name hb.keeps.nextConn (hb.alive hnd)

theorem Agree.quiet {x : XState} {d' : DState} {a : Ann} (h : Agree x a) (q : Quiet x.d d') :
    Agree { x with d := d' } a :=
  h.mono q.level q.root q.name q.nextConn (fun _ hc => ⟨q.live ▸ hc.1, hc.2⟩)

theorem agree_xstep (x : XState) (a : Ann) (op : XOp) (hs : SInv x.d) (h : Agree x a) :
    Agree (xstep x op) (annStep a op) := by
  have hnd := hs.liveNodup
  match op with
  | .base (.potentialParents _) | .base (.userStats _ _) | .base (.minSpeed _) | .base (.speedRatio _)
  | .base .serverStateChange => exact h.quiet (step_quiet _ _ (by rfl))
  | .base (.initialized n r) =>
    -- the new connection has announced nothing; whether it stays, goes or becomes a child changes no book
    have hw : Agree { x with d := withConn x.d n } (annStep a (.base (.initialized n r))) := by
      refine ⟨congrArg (· + 1) h.1, fun c hc => ?_⟩
      show upd x.d.level x.d.nextConn none c = upd a.level a.next none c ∧
        upd x.d.root x.d.nextConn none c = upd a.root a.next none c ∧
        upd x.d.name x.d.nextConn n c = upd a.name a.next n c
      rw [h.1]
      by_cases hck : c = x.d.nextConn
      · subst hck
        simp
      · have hcl : c ∈ x.d.live :=
          (List.mem_append.1 hc.1).resolve_right (fun h' => hck (List.mem_singleton.1 h'))
        simp only [upd_ne _ _ _ _ hck]
        exact h.2 c ⟨hcl, hc.2⟩
    have ht := addChild_sameTop (withConn x.d n) x.d.nextConn
    exact initialized_cases (P := fun t => Agree { x with d := t } _) x.d n r hs hw
      (hw.mono rfl rfl rfl rfl (fun c hc => ⟨List.mem_of_mem_erase hc.1, hc.2⟩))
      (fun _ _ => hw.mono ht.level ht.root (addChild_name _ _) ht.nextConn
        (fun c hc => ⟨addChild_live _ _ ▸ hc.1, hc.2⟩))
  | .base (.level c n) =>
    rcases level_step x c n with ⟨hal, e⟩ | ⟨hal, hb⟩
    · rw [e]
      refine ⟨h.1, fun e he => ?_⟩
      have hec : e ≠ c := fun e' => hal (e' ▸ he)
      obtain ⟨e1, e2, e3⟩ := h.2 e he
      show x.d.level e = upd a.level c (some n) e ∧
        x.d.root e = (if n = 0 then upd a.root c (some (a.name c)) else a.root) e ∧ x.d.name e = a.name e
      refine ⟨by rw [upd_ne _ _ _ _ hec]; exact e1, ?_, e3⟩
      split
      · rw [upd_ne _ _ _ _ hec]; exact e2
      · exact e2
    · refine hb.agree ⟨h.1, fun e he => ?_⟩ hnd
      obtain ⟨e1, e2, e3⟩ := h.2 e he
      obtain ⟨_, _, c3⟩ := h.2 c hal
      show upd x.d.level c (some n) e = upd a.level c (some n) e ∧
        (if n = 0 then upd x.d.root c (some (x.d.name c)) else x.d.root) e =
          (if n = 0 then upd a.root c (some (a.name c)) else a.root) e ∧ x.d.name e = a.name e
      refine ⟨by unfold upd; rw [e1], ?_, e3⟩
      split
      · unfold upd; rw [e2, c3]
      · exact e2
  | .base (.root c r) =>
    rcases root_step x c r with ⟨hr, e⟩ | ⟨hal, hb⟩
    · rw [e]
      refine ⟨h.1, fun e he => ?_⟩
      obtain ⟨e1, e2, e3⟩ := h.2 e he
      show x.d.level e = a.level e ∧ x.d.root e = upd a.root c (some r) e ∧ x.d.name e = a.name e
      refine ⟨e1, ?_, e3⟩
      by_cases hec : e = c
      · subst hec; rw [upd_self]; exact hr he
      · rw [upd_ne _ _ _ _ hec]; exact e2
    · refine hb.agree ⟨h.1, fun e he => ?_⟩ hnd
      obtain ⟨e1, e2, e3⟩ := h.2 e he
      show x.d.level e = a.level e ∧ upd x.d.root c (some r) e = upd a.root c (some r) e ∧ x.d.name e = a.name e
      exact ⟨e1, by unfold upd; rw [e2], e3⟩
  | .base (.sessionInit me) => exact (sessionInit_sheds x me).agree h hnd
  | .base .sessionDestroyed => exact h
  | .base (.closed _) | .base .resetDistributed | .srvBlock | .srvRelease | .arm _ | .childBlock _
  | .childRelease _ => exact (xstep_sheds x _ (by rfl)).agree h hnd

theorem agree_xrun (ops : List XOp) : Agree (xrun ops) (announced ops) :=
  xrun_rel annStep Agree Ann.init ⟨rfl, fun _ hc => nomatch hc.1⟩ (fun x a op hi h => agree_xstep x a op hi.binv.str h) ops

theorem derived_announced (ops : List XOp) (me : Name) (a : Adv) (search : Bool)
    (h : Derived (xrun ops).d me a search) : DerivedAnn (xrun ops).d (announced ops) me a search := by
  unfold DerivedAnn
  unfold Derived at h
  cases hp : (xrun ops).d.parent with
  | none => rw [hp] at h; exact h
  | some c =>
    rw [hp] at h
    obtain ⟨l, r, h1, h2, h3⟩ := h
    have hb := (xrun_xinv ops).binv
    obtain ⟨e1, e2, _⟩ := (agree_xrun ops).2 c ⟨hb.str.parentLive c hp, fun hm => hb.closingNP c hm hp⟩
    exact ⟨l, r, e1 ▸ h1, e2 ▸ h2, h3⟩

end AioslskVerif.Dist
