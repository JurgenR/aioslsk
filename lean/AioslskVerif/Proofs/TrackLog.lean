import AioslskVerif.Model.Track
/-! How the ghost histories of C15 grow when one element is appended: the attempts with repetitions left out
(`collapse`), the event log (`Justified`, `framesOf`). -/
namespace AioslskVerif.Track

/-- the last attempt was an AddUser; `p` when `l` holds none -/
def lastIsAdd (p : Bool) (l : List Frame) : Bool :=
  match l.getLast? with
  | some f => decide (f = .addUser)
  | none => p

theorem lastIsAdd_cons (p : Bool) (a : Frame) (l : List Frame) :
    lastIsAdd p (a :: l) = lastIsAdd (decide (a = .addUser)) l := by
  unfold lastIsAdd
  rw [List.getLast?_cons]
  cases l.getLast? <;> rfl

theorem lastIsAdd_false (l : List Frame) : lastIsAdd false l = true ↔ l.getLast? = some .addUser := by
  unfold lastIsAdd
  cases l.getLast? with
  | none => exact iff_of_false nofun nofun
  | some f => cases f <;> decide

theorem collapseFrom_append (l m : List Frame) : ∀ p : Bool,
    collapseFrom p (l ++ m) = collapseFrom p l ++ collapseFrom (lastIsAdd p l) m := by
  induction l with
  | nil => intro p; rfl
  | cons a l ih =>
    intro p
    rw [lastIsAdd_cons]
    cases a with
    | addUser => cases p <;> simp [collapseFrom, ih]
    | removeUser => simp [collapseFrom, ih]

theorem collapse_append_remove (l : List Frame) : collapse (l ++ [.removeUser]) = collapse l ++ [.removeUser] :=
  collapseFrom_append l _ false

theorem collapse_append_add_of_last (l : List Frame) (h : l.getLast? = some .addUser) :
    collapse (l ++ [.addUser]) = collapse l := by
  unfold collapse
  rw [collapseFrom_append, (lastIsAdd_false l).mpr h]
  exact List.append_nil _

theorem collapse_append_add_of_not_last (l : List Frame) (h : l.getLast? ≠ some .addUser) :
    collapse (l ++ [.addUser]) = collapse l ++ [.addUser] := by
  unfold collapse
  rw [collapseFrom_append, Bool.eq_false_iff.mpr (mt (lastIsAdd_false l).mp h)]
  rfl

theorem lastIsAdd_collapseFrom (l : List Frame) : ∀ p : Bool, lastIsAdd p (collapseFrom p l) = lastIsAdd p l := by
  induction l with
  | nil => intro p; rfl
  | cons a l ih =>
    intro p
    cases a with
    | addUser => cases p <;> simp [collapseFrom, lastIsAdd_cons, ih]
    | removeUser => simp [collapseFrom, lastIsAdd_cons, ih]

theorem collapse_last (l : List Frame) : (collapse l).getLast? = some .addUser ↔ l.getLast? = some .addUser := by
  rw [← lastIsAdd_false, ← lastIsAdd_false, collapse, lastIsAdd_collapseFrom]

theorem justifiedFrom_append (l : List Ev) (x : Ev) : ∀ p : Option Ev,
    justifiedFrom p (l ++ [x]) = (justifiedFrom p l && x.okAfter (l.getLast?.or p)) := by
  induction l with
  | nil => intro p; simp [justifiedFrom]
  | cons a l ih =>
    intro p
    simp only [List.cons_append, justifiedFrom, ih, List.getLast?_cons, Option.some_or, Option.or_some,
      Bool.and_assoc]

theorem justified_append (l : List Ev) (x : Ev) :
    Justified (l ++ [x]) = (Justified l && x.okAfter l.getLast?) := by
  unfold Justified
  rw [justifiedFrom_append, Option.or_none]

theorem framesOf_append (l m : List Ev) : framesOf (l ++ m) = framesOf l ++ framesOf m := by
  induction l with
  | nil => rfl
  | cons a l ih => cases a <;> simp [framesOf, ih]

@[simp] theorem justified_nil : Justified [] = true := rfl
@[simp] theorem framesOf_nil : framesOf [] = [] := rfl
@[simp] theorem collapse_nil : collapse [] = [] := rfl

end AioslskVerif.Track
