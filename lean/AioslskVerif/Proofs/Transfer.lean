import AioslskVerif.Model.Transfer
import AioslskVerif.Spec.TransferGraph
/-!
The invariant of the lock/dispatch model behind C03 (`Props/C03.lean`), parametrised by soundness of the
regenerated table: the shape of the who-did-what trace, and what the listeners have been told of the state
changes. `Inv` is one flat record of clauses, each guarded by what the lock holder is doing. The proofs do not
work on it: between two steps of the lock holder they read it as one of two records without guards — no loop
over the listeners is in progress (`Quiet`), or the loop for the newest state change has come to some listener
(`Telling`) — show that every function of the model takes one to the other, and go back (`Inv.to_quiet`,
`Inv.to_telling`; `Inv.of_quiet`, `Inv.of_notified`).
-/
namespace AioslskVerif.Transfer
open AioslskVerif.Generated.Transfer AioslskVerif.Spec.Transfer

/-- What the concurrent theorems need from the regenerated table (discharged in `Props/C03.lean` by
`C03_table_edges`, a corollary of `C03_table_sound`, so that a table that breaks it is reported as exactly that obligation). -/
def TableSound : Prop :=
  ∀ (d : Dir) (s : St) (m : Meth) (t : St) (e : List Eff), implStep d s m = some (t, e) → edge d s t = true

theorem mem_allDir (d : Dir) : d ∈ allDir := by cases d <;> decide
theorem mem_allSt (s : St) : s ∈ allSt := by cases s <;> decide
theorem mem_allMeth (m : Meth) : m ∈ allMeth := by cases m <;> decide

theorem table_sweep {P : Dir → St → Meth → Bool}
    (h : (allDir.all fun d => allSt.all fun s => allMeth.all fun m => P d s m) = true) (d : Dir) (s : St)
    (m : Meth) : P d s m = true :=
  List.all_eq_true.1 (List.all_eq_true.1 (List.all_eq_true.1 h d (mem_allDir d)) s (mem_allSt s)) m
    (mem_allMeth m)

/-- what the lock is doing -/
inductive Phase
  | idle                     -- lock free
  | running (id : Nat)       -- invocation `id` owns the lock and has not yet made its transition
  | notified (id : Nat)      -- invocation `id` has made its transition, listeners are being told
deriving DecidableEq

/-- `Shape ph tr`: the trace (newest first) is a sequence of complete invocation blocks — either
`[ret id false]` alone, or effects of one `id` followed by its one state change, the listener events
of that change and `ret id true`, or such a block cut short by `cancelled id` (the caller of the lock
holder was cancelled: nothing of that invocation follows) — followed, when `ph ≠ idle`, by what the
invocation still in progress has done so far. A `cancelled id` of a caller that was still *waiting* for
the lock may stand anywhere: it belongs to no block, that invocation never ran. -/
inductive Shape : Phase → List Item → Prop
  | nil : Shape .idle []
  | refused {tr} (id : Nat) : Shape .idle tr → Shape .idle (.ret id false :: tr)
  | start {tr} (id : Nat) : Shape .idle tr → Shape (.running id) tr
  | eff {tr} (id : Nat) (e : Eff) : Shape (.running id) tr → Shape (.running id) (.eff id e :: tr)
  | trans {tr} (id : Nat) (a b : St) :
      Shape (.running id) tr → Shape (.notified id) (.trans id a b :: tr)
  | event {tr} (id : Nat) (li : Nat) (a b : St) :
      Shape (.notified id) tr → Shape (.notified id) (.event id li a b :: tr)
  | done {tr} (id : Nat) : Shape (.notified id) tr → Shape .idle (.ret id true :: tr)
  | waiterCancelled {ph tr} (id : Nat) : Shape ph tr → Shape ph (.cancelled id :: tr)
  | cancelledRunning {tr} (id : Nat) : Shape (.running id) tr → Shape .idle (.cancelled id :: tr)
  | cancelledNotified {tr} (id : Nat) : Shape (.notified id) tr → Shape .idle (.cancelled id :: tr)

theorem Shape.idle_head {tr : List Item} (h : Shape .idle tr) :
    tr = [] ∨ (∃ id ok rest, tr = .ret id ok :: rest) ∨ (∃ id rest, tr = .cancelled id :: rest) := by
  cases h with
  | nil => exact .inl rfl
  | refused i _ => exact .inr (.inl ⟨i, false, _, rfl⟩)
  | done i _ => exact .inr (.inl ⟨i, true, _, rfl⟩)
  | waiterCancelled i _ => exact .inr (.inr ⟨i, _, rfl⟩)
  | cancelledRunning i _ => exact .inr (.inr ⟨i, _, rfl⟩)
  | cancelledNotified i _ => exact .inr (.inr ⟨i, _, rfl⟩)

theorem Shape.under_refusal {ph : Phase} {tr : List Item} (h : Shape ph tr) {id : Nat} {rest : List Item} :
    (.ret id false :: rest) <:+ tr → Shape .idle rest := by
  induction h with
  | nil => intro hs; cases List.suffix_nil.1 hs
  | start _ _ ih => exact ih
  | refused _ h ih =>
    intro hs
    rcases List.suffix_cons_iff.1 hs with heq | hs
    · cases heq; exact h
    · exact ih hs
  | _ =>
    -- every other constructor pushes an item that is no refusal
    rename_i ih
    exact fun hs => ih ((List.suffix_cons_iff.1 hs).resolve_left nofun)

theorem Shape.refusal_isolated {ph : Phase} {tr : List Item} (h : Shape ph tr) (pre : List Item) (id : Nat)
    (rest : List Item) (heq : tr = pre ++ .ret id false :: rest) :
    rest = [] ∨ (∃ id' ok rest', rest = .ret id' ok :: rest') ∨
      (∃ id' rest', rest = .cancelled id' :: rest') :=
  (h.under_refusal ⟨pre, heq.symm⟩).idle_head

/-- the state changes in a trace, newest first -/
def transNF (tr : List Item) : List (St × St) := tr.filterMap Item.change

/-- what listener `li` was told in a trace, newest first -/
def toldNF (li : Nat) (tr : List Item) : List (St × St) := tr.filterMap (Item.toldTo li)

@[simp] theorem transNF_nil : transNF [] = [] := rfl
@[simp] theorem transNF_eff (id e tr) : transNF (.eff id e :: tr) = transNF tr := rfl
@[simp] theorem transNF_ret (id ok tr) : transNF (.ret id ok :: tr) = transNF tr := rfl
@[simp] theorem transNF_cancelled (id tr) : transNF (.cancelled id :: tr) = transNF tr := rfl
@[simp] theorem transNF_trans (id a b tr) : transNF (.trans id a b :: tr) = (a, b) :: transNF tr := rfl
@[simp] theorem toldNF_nil (li) : toldNF li [] = [] := rfl
@[simp] theorem toldNF_eff (li id e tr) : toldNF li (.eff id e :: tr) = toldNF li tr := rfl
@[simp] theorem toldNF_ret (li id ok tr) : toldNF li (.ret id ok :: tr) = toldNF li tr := rfl
@[simp] theorem toldNF_cancelled (li id tr) : toldNF li (.cancelled id :: tr) = toldNF li tr := rfl
@[simp] theorem toldNF_trans (li id a b tr) : toldNF li (.trans id a b :: tr) = toldNF li tr := rfl
theorem toldNF_event_same (li id a b tr) :
    toldNF li (.event id li a b :: tr) = (a, b) :: toldNF li tr :=
  List.filterMap_cons_some (if_pos rfl)
theorem toldNF_event_other {li l id a b tr} (h : l ≠ li) :
    toldNF li (.event id l a b :: tr) = toldNF li tr :=
  List.filterMap_cons_none (if_neg h)

theorem mem_transNF {p : St × St} {tr : List Item} (h : p ∈ transNF tr) :
    ∃ id, Item.trans id p.1 p.2 ∈ tr := by
  obtain ⟨it, hmem, hs⟩ := List.mem_filterMap.1 h
  cases it <;> cases hs
  exact ⟨_, hmem⟩

theorem mem_toldNF {id li : Nat} {a b : St} {tr : List Item} (h : Item.event id li a b ∈ tr) :
    (a, b) ∈ toldNF li tr :=
  List.mem_filterMap.2 ⟨_, h, if_pos rfl⟩

theorem mem_events {p : St × St} {x : XState} (h : p ∈ events x) :
    ∃ id li, Item.event id li p.1 p.2 ∈ x.trace := by
  obtain ⟨it, hmem, hs⟩ := List.mem_filterMap.1 h
  cases it <;> cases hs
  exact ⟨_, _, List.mem_reverse.1 hmem⟩

theorem told_eq (li : Nat) (x : XState) : told li x = (toldNF li x.trace).reverse :=
  List.filterMap_reverse

theorem transitions_eq (x : XState) : transitions x = (transNF x.trace).reverse :=
  List.filterMap_reverse

/-- newest-first list of state changes that leads from `s0` to `cur` -/
def ChainNF (s0 : St) : St → List (St × St) → Prop
  | cur, [] => cur = s0
  | cur, (a, b) :: r => b = cur ∧ ChainNF s0 a r

theorem follows_append (s : St) (l : List (St × St)) (a b : St) :
    follows s (l ++ [(a, b)]) =
      match follows s l with
      | some e => if a = e then some b else none
      | none => none := by
  fun_induction follows s l with
  | case1 => rfl
  | case2 _ _ _ ih => rw [List.cons_append, follows, if_pos rfl, ih]
  | case3 _ _ _ _ h => rw [List.cons_append, follows, if_neg h]

theorem ChainNF.follows {s0 : St} : ∀ {cur : St} {l : List (St × St)}, ChainNF s0 cur l →
    follows s0 l.reverse = some cur := by
  intro cur l
  induction l generalizing cur with
  | nil => exact fun h => congrArg some h.symm
  | cons p r ih =>
    obtain ⟨a, b⟩ := p
    intro ⟨h1, h2⟩
    rw [List.reverse_cons, follows_append, ih h2]
    exact (if_pos rfl).trans (congrArg some h1)

/-- a step of the lock holder is over: the lock goes on to the waiters if it is free -/
def finish (cfg : Cfg) (x : XState) : XState :=
  match x.holder with
  | some _ => x
  | none => drain cfg x.waiters x

/-- the slow step the lock holder `p` is suspended in finishes -/
def resumed (cfg : Cfg) (p : Pending) (x : XState) : XState :=
  if p.abandoned then tasksEnded p x
  else if p.notified then notifyFrom p.call p.old (cfg.listeners.drop (p.pos + 1)) (p.pos + 1) x
  else runEffs cfg p.call p.target p.rest true x

theorem step_resume (cfg : Cfg) (x : XState) :
    step cfg x .resume = match x.holder with
      | none => x
      | some p => finish cfg (resumed cfg p x) := rfl

theorem step_cancelCaller (cfg : Cfg) (x : XState) (id : Nat) :
    step cfg x (.cancelCaller id) = match x.holder with
      | none => x
      | some p =>
        if p.call.id = id then
          if p.abandoned then x else finish cfg (abandon cfg p x)
        else
          match removeWaiter id x.waiters with
          | some ws => { x with waiters := ws, trace := .cancelled id :: x.trace }
          | none => x := rfl

theorem step_cancelCaller_waiter (cfg : Cfg) {x : XState} {p : Pending} {id : Nat} (hp : x.holder = some p)
    (hne : p.call.id ≠ id) :
    step cfg x (.cancelCaller id) = match removeWaiter id x.waiters with
      | some ws => { x with waiters := ws, trace := .cancelled id :: x.trace }
      | none => x := by
  rw [step_cancelCaller, hp]
  exact if_neg hne

/-- every `(old, new)` pair a state listener has been given so far is an edge of the documented graph -/
def EventsOk (d : Dir) (tr : List Item) : Prop :=
  ∀ id li a b, Item.event id li a b ∈ tr → edge d a b = true

/-- every `self.state = state` of `Transfer.transition` so far is an edge of the documented graph -/
def TransOk (d : Dir) (tr : List Item) : Prop :=
  ∀ id a b, Item.trans id a b ∈ tr → edge d a b = true

/-- what the lock is doing, read off its suspended holder: the `Phase` that `Shape` is indexed by -/
def phaseOf : Option Pending → Phase
  | none => .idle
  | some p => if p.notified then .notified p.call.id else .running p.call.id

/-- `s0` is the state the run started in. `pending` is what makes the induction go through: the transition a
suspended holder has not yet made is an edge from the **current** state. `quiet` and `telling` say what the
listeners have been told while no listener loop is in progress, and while the holder is suspended inside listener
`pos` of the loop for the newest change `(old, current state)`; both only as long as no cancellation has cut a
loop short (`cuts = 0`), whereas `sub` and `first` hold whatever is cancelled. -/
structure Inv (cfg : Cfg) (s0 : St) (x : XState) : Prop where
  events : EventsOk cfg.dir x.trace
  transOk : TransOk cfg.dir x.trace
  shape : Shape (phaseOf x.holder) x.trace
  pending : ∀ p, x.holder = some p → p.notified = false → edge cfg.dir x.cur p.target = true
  chain : ChainNF s0 x.cur (transNF x.trace)
  quiet : x.cuts = 0 → (∀ p, x.holder = some p → p.notified = false) →
    ∀ li, li < cfg.listeners.length → toldNF li x.trace = transNF x.trace
  telling : ∀ p, x.holder = some p → p.notified = true →
    p.pos < cfg.listeners.length ∧ edge cfg.dir p.old x.cur = true ∧
    (∃ rest, transNF x.trace = (p.old, x.cur) :: rest ∧
      ∀ li, p.pos < li → (toldNF li x.trace).Sublist rest) ∧
    (x.cuts = 0 →
      (∀ li, li ≤ p.pos → toldNF li x.trace = transNF x.trace) ∧
      (∀ li, p.pos < li → li < cfg.listeners.length →
        transNF x.trace = (p.old, x.cur) :: toldNF li x.trace))
  sub : ∀ li, (toldNF li x.trace).Sublist (transNF x.trace)
  first : 0 < cfg.listeners.length → toldNF 0 x.trace = transNF x.trace
  abandonedRunning : ∀ p, x.holder = some p → p.abandoned = true → p.notified = false

/-- The part of the invariant that holds whatever the lock is doing. What `Inv` says of the events follows from it: a
pair a listener was given is one of the state changes (`Core.eventsOk`). -/
structure Core (d : Dir) (s0 cur : St) (tr : List Item) : Prop where
  edges : ∀ p ∈ transNF tr, edge d p.1 p.2 = true
  chain : ChainNF s0 cur (transNF tr)
  sub : ∀ li, (toldNF li tr).Sublist (transNF tr)

theorem Core.transOk {d : Dir} {s0 cur : St} {tr : List Item} (h : Core d s0 cur tr) : TransOk d tr :=
  fun _ _ _ hmem => h.edges _ (List.mem_filterMap.2 ⟨_, hmem, rfl⟩)

theorem Core.eventsOk {d : Dir} {s0 cur : St} {tr : List Item} (h : Core d s0 cur tr) : EventsOk d tr :=
  fun _ li _ _ hmem => h.edges _ ((h.sub li).subset (mem_toldNF hmem))

/-- A listener whose record is complete whenever no loop over the listeners is in progress: a registered one
that is the first in line, or any registered one as long as no cancellation has cut a loop short. -/
def Reliable (cfg : Cfg) (cuts li : Nat) : Prop := li < cfg.listeners.length ∧ (li = 0 ∨ cuts = 0)

/-- The invariant while no loop over the listeners is in progress: the lock is free, or its holder has not yet
made its state change. -/
structure Quiet (cfg : Cfg) (s0 : St) (cuts : Nat) (cur : St) (tr : List Item) : Prop
    extends Core cfg.dir s0 cur tr where
  told : ∀ li, Reliable cfg cuts li → toldNF li tr = transNF tr

/-- The invariant while the loop over the listeners for the newest state change `(old, cur)` stands in front of
listener `pos`. `newest` speaks of every listener from `pos` on, reliable or not. -/
structure Telling (cfg : Cfg) (s0 : St) (cuts : Nat) (old cur : St) (tr : List Item) (pos : Nat) : Prop
    extends Core cfg.dir s0 cur tr where
  newest : ∃ rest, transNF tr = (old, cur) :: rest ∧ ∀ li, pos ≤ li → (toldNF li tr).Sublist rest
  before : ∀ li, li < pos → Reliable cfg cuts li → toldNF li tr = transNF tr
  after : ∀ li, pos ≤ li → Reliable cfg cuts li → transNF tr = (old, cur) :: toldNF li tr

section
variable {cfg : Cfg} {s0 old cur : St} {cuts pos : Nat} {tr tr' : List Item}

theorem Quiet.congr (h : Quiet cfg s0 cuts cur tr) (hT : transNF tr' = transNF tr)
    (hL : ∀ li, toldNF li tr' = toldNF li tr) : Quiet cfg s0 cuts cur tr' where
  edges := hT ▸ h.edges
  chain := hT ▸ h.chain
  sub li := hT ▸ hL li ▸ h.sub li
  told li hr := hT ▸ hL li ▸ h.told li hr

theorem Quiet.stateChange (h : Quiet cfg s0 cuts cur tr) (id : Nat) {t : St} (hedge : edge cfg.dir cur t = true) :
    Telling cfg s0 cuts cur t (.trans id cur t :: tr) 0 where
  edges p hp := by
    rcases List.mem_cons.1 hp with rfl | hp
    · exact hedge
    · exact h.edges p hp
  chain := ⟨rfl, h.chain⟩
  sub li := (h.sub li).cons _
  newest := ⟨transNF tr, rfl, fun li _ => h.sub li⟩
  before _ hli := absurd hli (Nat.not_lt_zero _)
  after li _ hr := congrArg _ (h.told li hr).symm

theorem Telling.tell (h : Telling cfg s0 cuts old cur tr pos) (id : Nat) :
    Telling cfg s0 cuts old cur (.event id pos old cur :: tr) (pos + 1) := by
  obtain ⟨rest, hnew, hrest⟩ := h.newest
  -- the new item adds `(old, cur)` to what listener `pos` was told and leaves every other listener's record
  refine { edges := h.edges, chain := h.chain, sub := fun li => ?sub,
           newest := ⟨rest, hnew, fun li hli => ?newest⟩, before := fun li hli hr => ?before,
           after := fun li hli hr => ?after }
  case sub =>
    by_cases hl : pos = li
    · subst hl
      rw [toldNF_event_same]
      exact hnew ▸ (hrest pos (Nat.le_refl _)).cons_cons _
    · rw [toldNF_event_other hl]; exact h.sub li
  case newest => rw [toldNF_event_other (Nat.ne_of_lt hli)]; exact hrest li (Nat.le_of_succ_le hli)
  case before =>
    rcases Nat.lt_succ_iff_lt_or_eq.1 hli with hlt | rfl
    · rw [toldNF_event_other (Nat.ne_of_gt hlt)]; exact h.before li hlt hr
    · rw [toldNF_event_same]; exact (h.after li (Nat.le_refl _) hr).symm
  case after => rw [toldNF_event_other (Nat.ne_of_lt hli)]; exact h.after li (Nat.le_of_succ_le hli) hr

/-- the loop is over, or is left: every listener that is still reliable has been told -/
theorem Telling.to_quiet (h : Telling cfg s0 cuts old cur tr pos) {cuts' : Nat}
    (hr : ∀ li, Reliable cfg cuts' li → li < pos ∧ Reliable cfg cuts li) : Quiet cfg s0 cuts' cur tr :=
  ⟨h.toCore, fun li hl => h.before li (hr li hl).1 (hr li hl).2⟩

end

theorem phaseOf_running {p : Pending} (hn : p.notified = false) : phaseOf (some p) = .running p.call.id := by
  simp [phaseOf, hn]

theorem phaseOf_notified {p : Pending} (hn : p.notified = true) : phaseOf (some p) = .notified p.call.id := by
  simp [phaseOf, hn]

section
variable {cfg : Cfg} {s0 : St} {x y : XState} {p : Pending}

theorem Inv.of_quiet (hq : Quiet cfg s0 x.cuts x.cur x.trace) (hsh : Shape (phaseOf x.holder) x.trace)
    (hp : ∀ p, x.holder = some p → p.notified = false ∧ edge cfg.dir x.cur p.target = true) :
    Inv cfg s0 x where
  events := hq.eventsOk
  transOk := hq.transOk
  shape := hsh
  pending p h _ := (hp p h).2
  chain := hq.chain
  quiet hc _ li hli := hq.told li ⟨hli, .inr hc⟩
  telling p h hn := absurd ((hp p h).1.symm.trans hn) nofun
  sub := hq.sub
  first h0 := hq.told 0 ⟨h0, .inl rfl⟩
  abandonedRunning p h _ := (hp p h).1

theorem Inv.of_free (hq : Quiet cfg s0 x.cuts x.cur x.trace) (hsh : Shape .idle x.trace)
    (hfree : x.holder = none) : Inv cfg s0 x :=
  .of_quiet hq (by rw [hfree]; exact hsh) fun _ h => by cases hfree.symm.trans h

theorem Inv.of_notified (ht : Telling cfg s0 x.cuts p.old x.cur x.trace (p.pos + 1))
    (hsh : Shape (.notified p.call.id) x.trace) (hp : x.holder = some p) (hn : p.notified = true)
    (ha : p.abandoned = false) (hpos : p.pos < cfg.listeners.length) : Inv cfg s0 x where
  events := ht.eventsOk
  transOk := ht.transOk
  shape := by rw [hp, phaseOf_notified hn]; exact hsh
  pending q hq hqn := by cases hp.symm.trans hq; cases hn.symm.trans hqn
  chain := ht.chain
  quiet _ h := by cases hn.symm.trans (h p hp)
  telling q hq _ := by
    cases hp.symm.trans hq
    obtain ⟨rest, hnew, hrest⟩ := ht.newest
    exact ⟨hpos, ht.edges _ (hnew ▸ List.mem_cons_self), ⟨rest, hnew, fun li hli => hrest li hli⟩,
      fun hc =>
        ⟨fun li hli => ht.before li (Nat.lt_succ_of_le hli) ⟨Nat.lt_of_le_of_lt hli hpos, .inr hc⟩,
          fun li hli hn => ht.after li hli ⟨hn, .inr hc⟩⟩⟩
  sub := ht.sub
  first h0 := ht.before 0 (Nat.succ_pos _) ⟨h0, .inl rfl⟩
  abandonedRunning q hq hqa := by cases hp.symm.trans hq; cases ha.symm.trans hqa

theorem Inv.core (hinv : Inv cfg s0 x) : Core cfg.dir s0 x.cur x.trace :=
  ⟨fun _ hp => (mem_transNF hp).elim fun _ => hinv.transOk _ _ _, hinv.chain, hinv.sub⟩

theorem Inv.to_quiet (hinv : Inv cfg s0 x) (hn : ∀ p, x.holder = some p → p.notified = false) :
    Quiet cfg s0 x.cuts x.cur x.trace :=
  ⟨hinv.core, fun li hr =>
    hr.2.elim (fun h0 => h0 ▸ hinv.first (h0 ▸ hr.1)) fun hc => hinv.quiet hc hn li hr.1⟩

theorem Inv.quiet_of_free (hinv : Inv cfg s0 x) (hfree : x.holder = none) :
    Quiet cfg s0 x.cuts x.cur x.trace :=
  hinv.to_quiet fun p hp => by cases hfree.symm.trans hp

theorem Inv.quiet_of_running (hinv : Inv cfg s0 x) (hp : x.holder = some p) (hn : p.notified = false) :
    Quiet cfg s0 x.cuts x.cur x.trace :=
  hinv.to_quiet fun q hq => by cases hp.symm.trans hq; exact hn

theorem Inv.shape_free (hinv : Inv cfg s0 x) (hfree : x.holder = none) : Shape .idle x.trace := by
  have h := hinv.shape
  rwa [hfree] at h

theorem Inv.shape_running (hinv : Inv cfg s0 x) (hp : x.holder = some p) (hn : p.notified = false) :
    Shape (.running p.call.id) x.trace := by
  rw [← phaseOf_running hn, ← hp]; exact hinv.shape

theorem Inv.shape_notified (hinv : Inv cfg s0 x) (hp : x.holder = some p) (hn : p.notified = true) :
    Shape (.notified p.call.id) x.trace := by
  rw [← phaseOf_notified hn, ← hp]; exact hinv.shape

/-- the lock holder is suspended inside listener `p.pos`: the loop stands in front of the next one -/
theorem Inv.to_telling (hinv : Inv cfg s0 x) (hp : x.holder = some p) (hn : p.notified = true) :
    Telling cfg s0 x.cuts p.old x.cur x.trace (p.pos + 1) := by
  obtain ⟨hpos, _, hnew, hcuts⟩ := hinv.telling p hp hn
  refine ⟨hinv.core, hnew, fun li hli hr => ?_, fun li hli hr => ?_⟩
  · rcases hr.2 with rfl | hc
    · exact hinv.first hr.1
    · exact (hcuts hc).1 li (Nat.le_of_lt_succ hli)
  · rcases hr.2 with rfl | hc
    · exact absurd hli (Nat.not_succ_le_zero _)
    · exact (hcuts hc).2 li hli hr.1

theorem Inv.congr (hinv : Inv cfg s0 x) (h1 : y.cur = x.cur) (h2 : y.holder = x.holder)
    (h3 : y.trace = x.trace) (h4 : y.cuts = x.cuts) : Inv cfg s0 y where
  events := h3 ▸ hinv.events
  transOk := h3 ▸ hinv.transOk
  shape := h2 ▸ h3 ▸ hinv.shape
  pending := h1 ▸ h2 ▸ hinv.pending
  chain := h1 ▸ h3 ▸ hinv.chain
  quiet := h2 ▸ h3 ▸ h4 ▸ hinv.quiet
  telling := h1 ▸ h2 ▸ h3 ▸ h4 ▸ hinv.telling
  sub := h3 ▸ hinv.sub
  first := h3 ▸ hinv.first
  abandonedRunning := h2 ▸ hinv.abandonedRunning

theorem Inv.waiterCancelled (hinv : Inv cfg s0 x) (id : Nat) (ws : List Call) :
    Inv cfg s0 { x with waiters := ws, trace := .cancelled id :: x.trace } :=
  -- the new item is no event and no state change, so every clause but these three reads what it read in `x`
  { hinv with
    events := fun i l a b h => hinv.events i l a b ((List.mem_cons.1 h).resolve_left nofun)
    transOk := fun i a b h => hinv.transOk i a b ((List.mem_cons.1 h).resolve_left nofun)
    shape := Shape.waiterCancelled id hinv.shape }

end

variable (cfg : Cfg) (s0 : St)

theorem notifyFrom_inv (c : Call) (old : St) (gs : List Bool) (pos : Nat) (x : XState)
    (hlen : pos + gs.length = cfg.listeners.length) (hsh : Shape (.notified c.id) x.trace)
    (ht : Telling cfg s0 x.cuts old x.cur x.trace pos) : Inv cfg s0 (notifyFrom c old gs pos x) := by
  fun_induction notifyFrom c old gs pos x with
  | case1 pos x =>
    -- `return True`: the loop has run through
    refine .of_free ((ht.to_quiet fun li hr => ⟨?_, hr⟩).congr rfl fun _ => rfl) (Shape.done c.id hsh) rfl
    exact Nat.lt_of_lt_of_eq hr.1 hlen.symm
  | case2 gs pos x =>
    exact .of_notified (ht.tell c.id) (Shape.event c.id pos old x.cur hsh) rfl rfl rfl
      (show pos < _ from hlen ▸ Nat.lt_add_of_pos_right (Nat.succ_pos _))
  | case3 g gs pos x _ _ ih =>
    exact ih ((Nat.add_right_comm pos 1 gs.length).trans hlen) (Shape.event c.id pos old x.cur hsh)
      (ht.tell c.id)

theorem runEffs_inv (c : Call) (t : St) (effs : List Eff) (force : Bool) (x : XState)
    (hq : Quiet cfg s0 x.cuts x.cur x.trace) (hsh : Shape (.running c.id) x.trace)
    (hedge : edge cfg.dir x.cur t = true) : Inv cfg s0 (runEffs cfg c t effs force x) := by
  fun_induction runEffs cfg c t effs force x with
  | case1 force x =>
    exact notifyFrom_inv cfg s0 c x.cur cfg.listeners 0 _ (Nat.zero_add _) (Shape.trans c.id x.cur t hsh)
      (hq.stateChange c.id hedge)
  | case2 e es force x hb => exact .of_quiet hq hsh fun _ h => by cases h; exact ⟨rfl, hedge⟩
  | case3 e es force x hb ih => exact ih (hq.congr rfl fun _ => rfl) (Shape.eff c.id e hsh) hedge

theorem tasksEnded_inv (x : XState) (p : Pending) (hinv : Inv cfg s0 x) (hp : x.holder = some p)
    (hn : p.notified = false) : Inv cfg s0 (tasksEnded p x) :=
  .of_free ((hinv.quiet_of_running hp hn).congr rfl fun _ => rfl)
    (Shape.cancelledRunning p.call.id (Shape.eff p.call.id .cancelTasks (hinv.shape_running hp hn))) rfl

theorem abandon_inv (x : XState) (p : Pending) (hinv : Inv cfg s0 x) (hp : x.holder = some p) :
    Inv cfg s0 (abandon cfg p x) := by
  unfold abandon
  split
  · next hn =>
    -- inside listener `p.pos`: the loop is left; if listeners were still to come nobody stays reliable
    -- but the first
    have hpos := (hinv.telling p hp hn).1
    refine .of_free (((hinv.to_telling hp hn).to_quiet fun li hr => ?_).congr rfl fun _ => rfl)
      (Shape.cancelledNotified p.call.id (hinv.shape_notified hp hn)) rfl
    rcases hr.2 with rfl | hc
    · exact ⟨Nat.succ_pos _, hr.1, .inl rfl⟩
    · dsimp only at hc
      split at hc
      · cases hc
      · next hlast => exact ⟨Nat.lt_of_lt_of_le hr.1 (Nat.le_of_not_lt hlast), hr.1, .inr hc⟩
  · next hn =>
    have hn := Bool.eq_false_iff.2 hn
    have hq := hinv.quiet_of_running hp hn
    have hsh := hinv.shape_running hp hn
    split
    · split
      · -- stays the lock holder, abandoned
        exact .of_quiet hq (by simpa [phaseOf, hn] using hsh)
          fun _ h => by cases h; exact ⟨hn, hinv.pending p hp hn⟩
      · exact tasksEnded_inv cfg s0 x p hinv hp hn
    · exact .of_free (hq.congr rfl fun _ => rfl) (Shape.cancelledRunning p.call.id hsh) rfl

theorem resumed_inv (x : XState) (p : Pending) (hinv : Inv cfg s0 x) (hp : x.holder = some p) :
    Inv cfg s0 (resumed cfg p x) := by
  unfold resumed
  split
  · next ha => exact tasksEnded_inv cfg s0 x p hinv hp (hinv.abandonedRunning p hp ha)
  · split
    · next hn =>
      -- listener `p.pos` returns; the loop goes on with the next one
      have hpos := (hinv.telling p hp hn).1
      exact notifyFrom_inv cfg s0 p.call p.old _ (p.pos + 1) x
        (by rw [List.length_drop]; exact Nat.add_sub_of_le hpos) (hinv.shape_notified hp hn)
        (hinv.to_telling hp hn)
    · next hn =>
      have hn := Bool.eq_false_iff.2 hn
      exact runEffs_inv cfg s0 p.call p.target p.rest true x (hinv.quiet_of_running hp hn)
        (hinv.shape_running hp hn) (hinv.pending p hp hn)

theorem init_inv (s : St) (f : Fields) : Inv cfg s (init s f) :=
  .of_free ⟨⟨fun _ h => absurd h List.not_mem_nil, rfl, fun _ => .slnil⟩, fun _ _ => rfl⟩ Shape.nil rfl

section
variable (hts : TableSound) (hm : cfg.mode = .current)
include hts hm

theorem grant_inv (c : Call) (x : XState) (hinv : Inv cfg s0 x) (hfree : x.holder = none) :
    Inv cfg s0 (grant cfg c x) := by
  have hsh := hinv.shape_free hfree
  have hq := hinv.quiet_of_free hfree
  unfold grant
  split
  · exact .of_free (hq.congr rfl fun _ => rfl) (Shape.refused c.id hsh) hfree
  · next t effs heq =>
    have hd : dispatchOn cfg x c = x.cur := by simp [dispatchOn, hm]
    exact runEffs_inv cfg s0 c t effs false x hq (Shape.start c.id hsh) (hts _ _ _ _ _ (hd ▸ heq))

theorem drain_inv (cs : List Call) (x : XState) (hinv : Inv cfg s0 x) (hfree : x.holder = none) :
    Inv cfg s0 (drain cfg cs x) := by
  fun_induction drain cfg cs x with
  | case1 x => exact hinv.congr rfl rfl rfl rfl
  | case2 c cs x _ _ _ => exact (grant_inv cfg s0 hts hm c x hinv hfree).congr rfl rfl rfl rfl
  | case3 c cs x _ hnone ih => exact ih (grant_inv cfg s0 hts hm c x hinv hfree) hnone

theorem arrive_inv (c : Call) (x : XState) (hinv : Inv cfg s0 x) : Inv cfg s0 (arrive cfg c x) := by
  unfold arrive
  dsimp only
  split
  · exact hinv.congr rfl rfl rfl rfl
  · next hnone => exact drain_inv cfg s0 hts hm _ x hinv hnone

theorem finish_inv (x : XState) (hinv : Inv cfg s0 x) : Inv cfg s0 (finish cfg x) := by
  unfold finish
  split
  · exact hinv
  · next hnone => exact drain_inv cfg s0 hts hm _ x hinv hnone

theorem step_inv (x : XState) (op : XOp) (hinv : Inv cfg s0 x) : Inv cfg s0 (step cfg x op) := by
  cases op with
  | create _ | spawn | setFile | tick | fsFault _ => exact hinv.congr rfl rfl rfl rfl
  | start id =>
    simp only [step]
    split
    · exact hinv
    · exact arrive_inv cfg s0 hts hm _ _ (hinv.congr rfl rfl rfl rfl)
  | call c => exact arrive_inv cfg s0 hts hm _ _ hinv
  | resume =>
    rw [step_resume]
    split
    · exact hinv
    · next p hp => exact finish_inv cfg s0 hts hm _ (resumed_inv cfg s0 x p hinv hp)
  | cancelCaller id =>
    rw [step_cancelCaller]
    split
    · exact hinv
    · next p hp =>
      split
      · split
        · exact hinv
        · exact finish_inv cfg s0 hts hm _ (abandon_inv cfg s0 x p hinv hp)
      · split
        · exact hinv.waiterCancelled id _
        · exact hinv
  | reload => exact hinv

theorem run_inv (ops : List XOp) (x : XState) (hinv : Inv cfg s0 x) : Inv cfg s0 (run cfg x ops) :=
  List.foldlRecOn ops (step cfg) hinv fun y hy op _ => step_inv cfg s0 hts hm y op hy

theorem run_init_inv (s : St) (f : Fields) (ops : List XOp) : Inv cfg s (run cfg (init s f) ops) :=
  run_inv cfg s hts hm ops _ (init_inv cfg s f)

end

section
variable {cfg : Cfg} {s0 : St} {x : XState} (hinv : Inv cfg s0 x)
include hinv

theorem Inv.events_edges : ∀ p ∈ Transfer.events x, edge cfg.dir p.1 p.2 = true := fun _ hp =>
  let ⟨id, li, h⟩ := mem_events hp
  hinv.events id li _ _ h

theorem Inv.transitions_walk :
    follows s0 (transitions x) = some x.cur ∧ ∀ p ∈ transitions x, edge cfg.dir p.1 p.2 = true :=
  ⟨transitions_eq x ▸ hinv.chain.follows,
    fun p hp => hinv.core.edges p (List.mem_reverse.1 (transitions_eq x ▸ hp))⟩

theorem Inv.told_sublist (li : Nat) : (told li x).Sublist (transitions x) :=
  told_eq li x ▸ transitions_eq x ▸ (hinv.sub li).reverse

theorem Inv.told_reliable {li : Nat} (hr : Reliable cfg x.cuts li) :
    (told li x = transitions x ∨
      ∃ p, x.holder = some p ∧ p.notified = true ∧ p.pos < li ∧
        told li x ++ [(p.old, x.cur)] = transitions x) ∧
    (x.holder = none → told li x = transitions x) := by
  rw [told_eq, transitions_eq]
  refine ⟨?_, fun hh => by rw [(hinv.quiet_of_free hh).told li hr]⟩
  cases hh : x.holder with
  | none => exact .inl (by rw [(hinv.quiet_of_free hh).told li hr])
  | some p =>
    cases hn : p.notified with
    | false => exact .inl (by rw [(hinv.quiet_of_running hh hn).told li hr])
    | true =>
      have ht := hinv.to_telling hh hn
      rcases Nat.lt_or_ge li (p.pos + 1) with hpos | hpos
      · exact .inl (by rw [ht.before li hpos hr])
      · exact .inr ⟨p, rfl, hn, hpos, by rw [ht.after li hpos hr, List.reverse_cons]⟩

theorem Inv.told_walk {li : Nat} (hr : Reliable cfg x.cuts li) :
    ∃ e, follows s0 (told li x) = some e ∧ (x.holder = none → e = x.cur) := by
  have hw := hinv.transitions_walk.1
  rcases (hinv.told_reliable hr).1 with h | ⟨p, hp, _, _, h⟩
  · exact ⟨x.cur, h ▸ hw, fun _ => rfl⟩
  · rw [← h, follows_append] at hw
    cases hf : follows s0 (told li x) with
    | none => rw [hf] at hw; cases hw
    | some e => exact ⟨e, rfl, fun hh => by cases hh.symm.trans hp⟩

end

/-- `events`, `told` and `transitions` read the trace oldest first: this takes a comparison of two traces, which
grow at the head, to them -/
theorem filterMap_reverse_congr {α β : Type} {f : α → Option β} {l l' : List α}
    (h : l'.filterMap f = l.filterMap f) : l'.reverse.filterMap f = l.reverse.filterMap f := by
  rw [List.filterMap_reverse, List.filterMap_reverse, h]

def XOp.isCancel : XOp → Bool
  | .cancelCaller _ => true
  | _ => false

theorem notifyFrom_cuts (c : Call) (old : St) (gs : List Bool) (pos : Nat) (x : XState) :
    (notifyFrom c old gs pos x).cuts = x.cuts := by
  fun_induction notifyFrom c old gs pos x with
  | case1 => rfl
  | case2 => rfl
  | case3 _ _ _ _ _ _ ih => exact ih

theorem runEffs_cuts (c : Call) (t : St) (effs : List Eff) (force : Bool) (x : XState) :
    (runEffs cfg c t effs force x).cuts = x.cuts := by
  fun_induction runEffs cfg c t effs force x with
  | case1 => exact notifyFrom_cuts ..
  | case2 => rfl
  | case3 _ _ _ _ _ ih => exact ih

theorem grant_cuts (c : Call) (x : XState) : (grant cfg c x).cuts = x.cuts := by
  unfold grant
  split
  · rfl
  · exact runEffs_cuts ..

theorem drain_cuts (cs : List Call) (x : XState) : (drain cfg cs x).cuts = x.cuts := by
  fun_induction drain cfg cs x with
  | case1 => rfl
  | case2 => exact grant_cuts ..
  | case3 _ _ _ _ _ ih => exact ih.trans (grant_cuts ..)

theorem arrive_cuts (c : Call) (x : XState) : (arrive cfg c x).cuts = x.cuts := by
  unfold arrive
  dsimp only
  split
  · rfl
  · exact drain_cuts ..

theorem finish_cuts (x : XState) : (finish cfg x).cuts = x.cuts := by
  unfold finish
  split
  · rfl
  · exact drain_cuts ..

theorem step_cuts_of_not_cancel (x : XState) (op : XOp) (h : op.isCancel = false) :
    (step cfg x op).cuts = x.cuts := by
  cases op with
  | start id =>
    simp only [step]
    split
    · rfl
    · exact arrive_cuts ..
  | call c => exact arrive_cuts ..
  | resume =>
    rw [step_resume]
    split
    · rfl
    · refine (finish_cuts ..).trans ?_
      unfold resumed
      split
      · rfl
      · split
        · exact notifyFrom_cuts ..
        · exact runEffs_cuts ..
  | cancelCaller id => cases h
  | _ => rfl

theorem run_cuts_of_no_cancel (ops : List XOp) (h : ops.all (fun o => !o.isCancel) = true) (x : XState) :
    (run cfg x ops).cuts = x.cuts :=
  List.foldlRecOn (motive := fun y => y.cuts = x.cuts) ops (step cfg) rfl fun y hy op hop =>
    (step_cuts_of_not_cancel cfg y op (by simpa using List.all_eq_true.1 h op hop)).trans hy

theorem runEffs_told_of_no_listeners (hl : cfg.listeners = []) (li : Nat) (c : Call) (t : St)
    (effs : List Eff) (force : Bool) (x : XState) :
    toldNF li (runEffs cfg c t effs force x).trace = toldNF li x.trace := by
  fun_induction runEffs cfg c t effs force x with
  | case1 => rw [hl]; rfl
  | case2 => rfl
  | case3 _ _ _ _ _ ih => exact ih

theorem noListeners_arrive_init (hl : cfg.listeners = []) (c : Call) (s : St) (f : Fields) :
    ∀ id li a b, Item.event id li a b ∉ (arrive cfg c (init s f)).trace := by
  intro id li a b h
  -- the lock is free and nobody waits: the call is granted the lock at once
  obtain ⟨c', ht⟩ : ∃ c', (arrive cfg c (init s f)).trace = (grant cfg c' (init s f)).trace := by
    refine ⟨if c.mgr then { c with captured := s } else c, ?_⟩
    unfold arrive drain
    dsimp only [init, List.nil_append]
    split <;> rfl
  have hg : toldNF li (grant cfg c' (init s f)).trace = [] := by
    unfold grant
    split
    · rfl
    · exact runEffs_told_of_no_listeners cfg hl ..
  exact List.not_mem_nil (hg ▸ ht ▸ mem_toldNF h)

theorem load_is_init (stored : St) (f : Fields) (whole : Bool) :
    ∃ s' f', load cfg stored f whole = init s' f' := by
  unfold load
  cases stored <;> exact ⟨_, _, rfl⟩

end AioslskVerif.Transfer
