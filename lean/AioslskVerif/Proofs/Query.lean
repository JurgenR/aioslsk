import AioslskVerif.Model.Query
/-!
The regular-expression matcher against the declarative predicate: a start position of `pattern.search`
is a split of the path whose left part ends at a word boundary (`searchFrom_iff`). Completeness of the
term-map prefilter: `words` distributes over such boundaries, so a path that matches a term has the
term's words among its own (`incl_words`, `wild_words`).
-/
set_option linter.unusedSectionVars false
namespace AioslskVerif.Query

section
variable {Ch : Type} [DecidableEq Ch] (K : Cls Ch)

/-- "the last character read is a word character", starting from `pw` -/
def lastW : Bool → List Ch → Bool
  | pw, [] => pw
  | _, c :: a => lastW (K.isWord c) a

theorem lastW_concat (pw : Bool) (a : List Ch) (c : Ch) : lastW K pw (a ++ [c]) = K.isWord c := by
  induction a generalizing pw with
  | nil => rfl
  | cons x a ih => exact ih _

theorem endsSep_iff (a : List Ch) : EndsSep K a ↔ lastW K false a = false := by
  rcases List.eq_nil_or_concat a with rfl | ⟨a', c, rfl⟩
  · exact ⟨fun _ => rfl, fun _ => Or.inl rfl⟩
  · rw [List.concat_eq_append, lastW_concat]
    constructor
    · rintro (h | ⟨a'', c', h, hc⟩)
      · simp at h
      · rwa [(List.append_singleton_inj.1 h).2]
    · exact fun hc => Or.inr ⟨a', c, rfl, hc⟩

theorem startsSep_iff (b : List Ch) : StartsSep K b ↔ endOK K b = true := by
  cases b with
  | nil => simp [StartsSep, endOK]
  | cons c b => simp [StartsSep, endOK]

theorem litAt_iff (t p r : List Ch) :
    litAt K t p = some r ↔ ∃ m, p = m ++ r ∧ CIeq K m t := by
  induction t generalizing p with
  | nil => simp [litAt, CIeq, eq_comm]
  | cons c t ih =>
    cases p with
    | nil => simp [litAt, CIeq]
    | cons d p =>
      have : (∃ m, d :: p = m ++ r ∧ CIeq K m (c :: t)) ↔ K.fold c = K.fold d ∧ ∃ m, p = m ++ r ∧ CIeq K m t := by
        constructor
        · rintro ⟨m, hm, hc⟩
          cases m with
          | nil => simp [CIeq] at hc
          | cons x m =>
            cases hm
            simp only [CIeq, List.map_cons, List.cons.injEq] at hc
            exact ⟨hc.1.symm, m, rfl, hc.2⟩
        · rintro ⟨hcd, m, rfl, hm⟩
          exact ⟨d :: m, rfl, by simp only [CIeq, List.map_cons, hcd]; exact congrArg _ hm⟩
      rw [this, ← ih, litAt]
      split <;> simp [*]

theorem inclAt_iff (t p : List Ch) :
    inclAt K t p = true ↔ ∃ m r, p = m ++ r ∧ CIeq K m t ∧ StartsSep K r := by
  have : (∃ m r, p = m ++ r ∧ CIeq K m t ∧ StartsSep K r) ↔ ∃ r, litAt K t p = some r ∧ endOK K r = true := by
    simp only [litAt_iff, startsSep_iff]
    exact ⟨fun ⟨m, r, h1, h2, h3⟩ => ⟨r, ⟨m, h1, h2⟩, h3⟩, fun ⟨r, ⟨m, h1, h2⟩, h3⟩ => ⟨m, r, h1, h2, h3⟩⟩
  rw [this, inclAt]
  cases litAt K t p <;> simp

theorem wildAt_iff (t p : List Ch) :
    wildAt K t p = true ↔
      ∃ w m r, p = w ++ m ++ r ∧ (∀ c ∈ w, K.isWord c = true) ∧ CIeq K m t ∧ StartsSep K r := by
  -- no word characters taken: the literal matches here
  have h0 : ∀ p, inclAt K t p = true ↔ ∃ m r, p = [] ++ m ++ r ∧ CIeq K m t ∧ StartsSep K r := inclAt_iff K t
  induction p with
  | nil =>
    rw [wildAt, h0]
    constructor
    · rintro ⟨m, r, h⟩; exact ⟨[], m, r, h.1, by simp, h.2⟩
    · rintro ⟨w, m, r, h, _, hc⟩
      obtain ⟨rfl, -⟩ := List.append_eq_nil_iff.1 (List.append_eq_nil_iff.1 h.symm).1
      exact ⟨m, r, h, hc⟩
  | cons c p ih =>
    simp only [wildAt, Bool.or_eq_true, Bool.and_eq_true, h0, ih]
    constructor
    · rintro (⟨m, r, h⟩ | ⟨hcw, w, m, r, h, hw, hc⟩)
      · exact ⟨[], m, r, h.1, by simp, h.2⟩
      · exact ⟨c :: w, m, r, by rw [h]; rfl, List.forall_mem_cons.2 ⟨hcw, hw⟩, hc⟩
    · rintro ⟨w, m, r, h, hw, hc⟩
      cases w with
      | nil => exact Or.inl ⟨m, r, h, hc⟩
      | cons x w =>
        cases h
        exact Or.inr ⟨hw _ List.mem_cons_self, w, m, r, rfl, fun y hy => hw y (List.mem_cons_of_mem _ hy), hc⟩

theorem searchFrom_iff (here : List Ch → Bool) (pw : Bool) (p : List Ch) :
    searchFrom K here pw p = true ↔ ∃ a r, p = a ++ r ∧ lastW K pw a = false ∧ here r = true := by
  induction p generalizing pw with
  | nil =>
    simp only [searchFrom, Bool.and_eq_true, Bool.not_eq_true']
    constructor
    · rintro ⟨h1, h2⟩; exact ⟨[], [], rfl, h1, h2⟩
    · rintro ⟨a, r, h, h1, h2⟩
      obtain ⟨rfl, rfl⟩ := List.nil_eq_append_iff.1 h
      exact ⟨h1, h2⟩
  | cons c p ih =>
    simp only [searchFrom, Bool.or_eq_true, Bool.and_eq_true, Bool.not_eq_true', ih]
    constructor
    · rintro (⟨h1, h2⟩ | ⟨a, r, h, h1, h2⟩)
      · exact ⟨[], c :: p, rfl, h1, h2⟩
      · exact ⟨c :: a, r, by rw [h]; rfl, h1, h2⟩
    · rintro ⟨a, r, h, h1, h2⟩
      rcases List.cons_eq_append_iff.1 h with ⟨rfl, rfl⟩ | ⟨a', rfl, rfl⟩
      · exact Or.inl ⟨h1, h2⟩
      · exact Or.inr ⟨a', r, rfl, h1, h2⟩

theorem reIncl_iff (t p : List Ch) : reIncl K t p = true ↔ Incl K t p := by
  unfold reIncl Incl
  rw [searchFrom_iff]
  constructor
  · rintro ⟨a, r, h, ha, hr⟩
    obtain ⟨m, b, hb, hc, hs⟩ := (inclAt_iff K t r).1 hr
    exact ⟨a, m, b, by simp [h, hb], (endsSep_iff K a).2 ha, hc, hs⟩
  · rintro ⟨a, m, b, h, ha, hc, hs⟩
    exact ⟨a, m ++ b, by simp [h], (endsSep_iff K a).1 ha, (inclAt_iff K t _).2 ⟨m, b, rfl, hc, hs⟩⟩

theorem reWild_iff (t p : List Ch) : reWild K t p = true ↔ Wild K t p := by
  unfold reWild Wild
  rw [searchFrom_iff]
  constructor
  · rintro ⟨a, r, h, ha, hr⟩
    obtain ⟨w, m, b, hb, hw, hc, hs⟩ := (wildAt_iff K t r).1 hr
    exact ⟨a, w, m, b, by simp [h, hb], (endsSep_iff K a).2 ha, hw, hc, hs⟩
  · rintro ⟨a, w, m, b, h, ha, hw, hc, hs⟩
    exact ⟨a, w ++ m ++ b, by simp [h], (endsSep_iff K a).1 ha,
      (wildAt_iff K t _).2 ⟨w, m, b, rfl, hw, hc, hs⟩⟩

theorem matchesRegex_iff (q : Query Ch) (p : List Ch) : matchesRegex K q p = true ↔ MatchesSpec K q p := by
  simp only [matchesRegex, MatchesSpec, Bool.and_eq_true, List.all_eq_true, reIncl_iff, reWild_iff,
    Bool.not_eq_true', ← Bool.not_eq_true, and_assoc]

theorem runsAux_append_sep (keep : Ch → Bool) (cur a : List Ch) (c : Ch) (b : List Ch) (hc : keep c = false) :
    runsAux keep cur (a ++ c :: b) = runsAux keep cur a ++ runsAux keep [] b := by
  induction a generalizing cur with
  | nil =>
    simp only [List.nil_append, runsAux, hc, Bool.false_eq_true, if_false]
    split <;> simp
  | cons x a ih =>
    simp only [List.cons_append, runsAux]
    split
    · exact ih _
    · split
      · exact ih _
      · simp [ih]

theorem runsAux_all (keep : Ch → Bool) (cur a b : List Ch) (ha : ∀ c ∈ a, keep c = true) :
    runsAux keep cur (a ++ b) = runsAux keep (cur ++ a) b := by
  induction a generalizing cur with
  | nil => simp
  | cons x a ih =>
    have hx : keep x = true := ha x (List.mem_cons_self)
    simp only [List.cons_append, runsAux, hx, if_true]
    rw [ih _ (fun c hc => ha c (List.mem_cons_of_mem _ hc))]
    simp

theorem words_nil : words K ([] : List Ch) = [] := by simp [words, runsAux]

theorem words_append_left (a b : List Ch) (ha : EndsSep K a) : words K (a ++ b) = words K a ++ words K b := by
  rcases ha with rfl | ⟨a', c, rfl, hc⟩
  · simp [words_nil]
  · have h1 : words K (a' ++ [c] ++ b) = words K a' ++ words K b := by
      simpa [words] using runsAux_append_sep K.isWord [] a' c b hc
    have h2 : words K (a' ++ [c]) = words K a' := by
      have := runsAux_append_sep K.isWord [] a' c [] hc
      simpa [words, runsAux] using this
    rw [h1, h2]

theorem words_append_right (a b : List Ch) (hb : StartsSep K b) : words K (a ++ b) = words K a ++ words K b := by
  rcases hb with rfl | ⟨c, b', rfl, hc⟩
  · simp [words_nil]
  · have h1 : words K (a ++ c :: b') = words K a ++ words K b' := by
      simpa [words] using runsAux_append_sep K.isWord [] a c b' hc
    have h2 : words K (c :: b') = words K b' := by
      simp [words, runsAux, hc]
    rw [h1, h2]

theorem words_allword (u : List Ch) (hne : u ≠ []) (hu : ∀ c ∈ u, K.isWord c = true) : words K u = [u] := by
  have := runsAux_all K.isWord [] u [] hu
  simp only [List.append_nil, List.nil_append] at this
  simp [words, this, runsAux, hne]

theorem runsAux_ne_nil (keep : Ch → Bool) (cur t : List Ch) (h : cur ≠ [] ∨ t.any keep = true) :
    runsAux keep cur t ≠ [] := by
  induction t generalizing cur with
  | nil =>
    rcases h with h | h
    · simp [runsAux, h]
    · simp at h
  | cons c s ih =>
    simp only [runsAux]
    split
    · exact ih _ (Or.inl (by simp))
    · rename_i hc
      split
      · rename_i hcur
        apply ih
        rcases h with h | h
        · simp at hcur; exact absurd hcur h
        · right; simpa [hc] using h
      · simp

theorem startsSep_dropWhile (l : List Ch) : StartsSep K (l.dropWhile K.isWord) := by
  cases h : l.dropWhile K.isWord with
  | nil => exact Or.inl rfl
  | cons c b =>
    exact Or.inr ⟨c, b, rfl, by simpa [h] using List.head_dropWhile_not K.isWord (l := l) (by simp [h])⟩

theorem wildFirst_some (t s : List Ch) (h : wildFirst K t = some s) :
    s ≠ [] ∧ (∀ c ∈ s, K.isWord c = true) ∧ t = s ++ t.dropWhile K.isWord ∧ wildRest K t = words K (t.dropWhile K.isWord) := by
  cases t with
  | nil => simp [wildFirst] at h
  | cons c t =>
    simp only [wildFirst] at h
    split at h
    · rename_i hc
      have hs : s = (c :: t).takeWhile K.isWord := by simpa using h.symm
      subst hs
      refine ⟨by simp [List.takeWhile, hc], List.all_eq_true.1 List.all_takeWhile, (List.takeWhile_append_dropWhile).symm, ?_⟩
      simp [wildRest, wildFirst, hc]
    · simp at h

theorem wildFirst_none (t : List Ch) (h : wildFirst K t = none) : StartsSep K t ∧ wildRest K t = words K t := by
  cases t with
  | nil => exact ⟨Or.inl rfl, by simp [wildRest, wildFirst]⟩
  | cons c t =>
    simp only [wildFirst] at h
    split at h
    · simp at h
    · rename_i hc
      have hc' : K.isWord c = false := by simpa using hc
      exact ⟨Or.inr ⟨c, t, rfl, hc'⟩, by simp [wildRest, wildFirst, hc']⟩

theorem endsSep_map (hK : K.Lawful) (a : List Ch) (h : EndsSep K a) : EndsSep K (a.map K.fold) := by
  rcases h with rfl | ⟨a', c, rfl, hc⟩
  · exact Or.inl rfl
  · exact Or.inr ⟨a'.map K.fold, K.fold c, by simp, by rw [hK.word_fold]; exact hc⟩

theorem startsSep_map (hK : K.Lawful) (b : List Ch) (h : StartsSep K b) : StartsSep K (b.map K.fold) := by
  rcases h with rfl | ⟨c, b', rfl, hc⟩
  · exact Or.inl rfl
  · exact Or.inr ⟨K.fold c, b'.map K.fold, by simp, by rw [hK.word_fold]; exact hc⟩

theorem words_mid (l u r : List Ch) (hl : EndsSep K l) (hr : StartsSep K r) :
    words K (l ++ u ++ r) = words K l ++ words K u ++ words K r := by
  rw [List.append_assoc, words_append_left K _ _ hl, words_append_right K _ _ hr, List.append_assoc]

theorem incl_words (hK : K.Lawful) (t p : List Ch) (ht : t.map K.fold = t) (h : Incl K t p) :
    ∀ x ∈ words K t, x ∈ pathWords K p := by
  obtain ⟨a, m, b, rfl, ha, hc, hb⟩ := h
  intro x hx
  simp only [pathWords, List.map_append, show m.map K.fold = t from hc.trans ht,
    words_mid K _ _ _ (endsSep_map K hK a ha) (startsSep_map K hK b hb)]
  simp [hx]

theorem wild_words (hK : K.Lawful) (t p : List Ch) (ht : t.map K.fold = t) (h : Wild K t p) :
    (∀ s, wildFirst K t = some s → ∃ w ∈ pathWords K p, s <:+ w) ∧ (∀ x ∈ wildRest K t, x ∈ pathWords K p) := by
  obtain ⟨a, w, m, b, rfl, ha, hw, hc, hb⟩ := h
  have hw' : ∀ c ∈ w.map K.fold, K.isWord c = true := by
    intro c hcm
    obtain ⟨d, hd, rfl⟩ := List.mem_map.1 hcm
    rw [hK.word_fold]; exact hw d hd
  -- between the two boundaries: the word characters before the term run into its first sub-term
  have hmid : words K (w.map K.fold ++ t) =
      match wildFirst K t with
      | some s => (w.map K.fold ++ s) :: wildRest K t
      | none => words K (w.map K.fold) ++ wildRest K t := by
    cases hf : wildFirst K t with
    | some s =>
      obtain ⟨hne, hsw, hts, hrest⟩ := wildFirst_some K t s hf
      rw [hrest]
      conv => lhs; rw [hts, ← List.append_assoc]
      rw [words_append_right K _ _ (startsSep_dropWhile K t),
        words_allword K _ (by simp [hne]) (fun c hc => (List.mem_append.1 hc).elim (hw' c) (hsw c))]
      rfl
    | none =>
      obtain ⟨hst, hrest⟩ := wildFirst_none K t hf
      rw [hrest, words_append_right K _ _ hst]
  have hp : pathWords K (a ++ w ++ m ++ b) =
      words K (a.map K.fold) ++ words K (w.map K.fold ++ t) ++ words K (b.map K.fold) := by
    rw [← words_mid K _ _ _ (endsSep_map K hK a ha) (startsSep_map K hK b hb)]
    simp [pathWords, show m.map K.fold = t from hc.trans ht]
  rw [hp, hmid]
  constructor
  · intro s hs
    rw [hs]
    exact ⟨w.map K.fold ++ s, by simp, List.suffix_append _ _⟩
  · intro x hx
    cases wildFirst K t <;> simp [hx]

theorem mem_dedup {α : Type} [DecidableEq α] (x : α) (l : List α) : x ∈ dedup l ↔ x ∈ l := by
  induction l with
  | nil => exact Iff.rfl
  | cons y l ih =>
    rw [dedup]
    split
    · rename_i hy
      rw [ih, List.mem_cons]
      exact ⟨Or.inr, fun h => h.elim (· ▸ hy) id⟩
    · rw [List.mem_cons, List.mem_cons, ih]

theorem nodup_dedup {α : Type} [DecidableEq α] (l : List α) : (dedup l).Nodup := by
  induction l with
  | nil => exact List.nodup_nil
  | cons y l ih =>
    rw [dedup]
    split
    · exact ih
    · exact List.nodup_cons.2 ⟨by rwa [mem_dedup], ih⟩

variable {I : Type} [DecidableEq I] (qp : I → List Ch)

theorem mem_keys (tm : List I) (w : List Ch) : w ∈ keys K qp tm ↔ ∃ it ∈ tm, w ∈ pathWords K (qp it) := by
  simp [keys, mem_dedup, List.mem_flatMap]

theorem mem_lookup (tm : List I) (w : List Ch) (it : I) :
    it ∈ lookup K qp tm w ↔ it ∈ tm ∧ w ∈ pathWords K (qp it) := by
  simp [lookup, List.mem_filter]

theorem mem_unionLookup (tm : List I) (ws : List (List Ch)) (it : I) :
    it ∈ unionLookup K qp tm ws ↔ it ∈ tm ∧ ∃ w ∈ ws, w ∈ pathWords K (qp it) := by
  simp [unionLookup, List.mem_filter]

theorem mem_matchingKeys (tm : List I) (s w : List Ch) :
    w ∈ matchingKeys K qp tm s ↔ w ∈ keys K qp tm ∧ s <:+ w := by
  simp [matchingKeys, List.mem_filter]

def candSets (tm : List I) (q : Query Ch) : List (List I) :=
  (exactTerms K q).map (lookup K qp tm) ++
    (suffixTerms K q).map (fun s => unionLookup K qp tm (matchingKeys K qp tm s))

theorem candSets_sublist (tm : List I) (q : Query Ch) : ∀ x ∈ candSets K qp tm q, x.Sublist tm := by
  intro x hx
  simp only [candSets, List.mem_append, List.mem_map] at hx
  rcases hx with ⟨w, _, rfl⟩ | ⟨s, _, rfl⟩
  · exact List.filter_sublist
  · exact List.filter_sublist

theorem prefilter_eq (tm : List I) (q : Query Ch) :
    prefilter K qp tm q =
      if (exactTerms K q).any (fun w => !(keys K qp tm).contains w) ||
          (suffixTerms K q).any (fun s => (matchingKeys K qp tm s).isEmpty) then []
      else match candSets K qp tm q with
        | [] => []
        | s :: ss => s.filter (fun it => ss.all (fun x => x.contains it)) := rfl

theorem prefilter_sublist (tm : List I) (q : Query Ch) : (prefilter K qp tm q).Sublist tm := by
  rw [prefilter_eq]
  split
  · exact List.nil_sublist _
  · have := candSets_sublist K qp tm q
    split
    next => exact List.nil_sublist _
    next s ss heq => exact (List.filter_sublist).trans (this s (by rw [heq]; exact List.mem_cons_self))

/-- Per-term well-formedness of what `parse` produces: every include / wildcard term has a word
character and is lower-cased. -/
def Query.WF (q : Query Ch) : Prop :=
  (∀ t ∈ q.incl, t.any K.isWord = true ∧ t.map K.fold = t) ∧
  (∀ t ∈ q.wild, t.any K.isWord = true ∧ t.map K.fold = t)

theorem words_ne_nil (t : List Ch) (h : t.any K.isWord = true) : words K t ≠ [] :=
  runsAux_ne_nil K.isWord [] t (Or.inr h)

theorem candSets_ne_nil (tm : List I) (q : Query Ch) (hq : q.WF K) (hi : q.hasInclusion = true) :
    candSets K qp tm q ≠ [] := by
  simp only [Query.hasInclusion, Bool.or_eq_true, Bool.not_eq_true', List.isEmpty_eq_false_iff] at hi
  have : exactTerms K q ≠ [] ∨ suffixTerms K q ≠ [] := by
    rcases hi with hi | hi
    · obtain ⟨t, ht⟩ := List.exists_mem_of_ne_nil _ hi
      obtain ⟨x, hx⟩ := List.exists_mem_of_ne_nil _ (words_ne_nil K t (hq.1 t ht).1)
      exact Or.inl (List.ne_nil_of_mem (List.mem_append_left _ (List.mem_flatMap.2 ⟨t, ht, hx⟩)))
    · obtain ⟨t, ht⟩ := List.exists_mem_of_ne_nil _ hi
      cases hf : wildFirst K t with
      | some s => exact Or.inr (List.ne_nil_of_mem (List.mem_filterMap.2 ⟨t, ht, hf⟩))
      | none =>
        obtain ⟨x, hx⟩ := List.exists_mem_of_ne_nil _ (words_ne_nil K t (hq.2 t ht).1)
        rw [← (wildFirst_none K t hf).2] at hx
        exact Or.inl (List.ne_nil_of_mem (List.mem_append_right _ (List.mem_flatMap.2 ⟨t, ht, hx⟩)))
  intro h
  simp only [candSets, List.append_eq_nil_iff, List.map_eq_nil_iff] at h
  exact this.elim (· h.1) (· h.2)

theorem mem_prefilter_iff (tm : List I) (q : Query Ch) (it : I) :
    it ∈ prefilter K qp tm q ↔ candSets K qp tm q ≠ [] ∧ ∀ x ∈ candSets K qp tm q, it ∈ x := by
  rw [prefilter_eq]
  split
  next hg =>
    -- the early exits are shortcuts: a term that is no key, or that no key ends with, has an empty candidate set
    simp only [List.not_mem_nil, false_iff, not_and]
    intro _ hall
    simp only [Bool.or_eq_true, List.any_eq_true, Bool.not_eq_true', List.isEmpty_iff] at hg
    rcases hg with ⟨w, hw, hk⟩ | ⟨s, hs, he⟩
    · have h := (mem_lookup K qp tm w it).1 (hall _ (List.mem_append_left _ (List.mem_map_of_mem hw)))
      simp [(mem_keys K qp tm w).2 ⟨it, h⟩] at hk
    · obtain ⟨_, w, hw, _⟩ :=
        (mem_unionLookup K qp tm _ it).1 (hall _ (List.mem_append_right _ (List.mem_map_of_mem hs)))
      rw [he] at hw
      cases hw
  · split
    next h => simp [h]
    next s ss h =>
      -- in the first candidate set and in each of the others
      rw [h, List.forall_mem_cons]
      simp [List.mem_filter, List.all_eq_true]

theorem mem_prefilter_of_matches (hK : K.Lawful) (tm : List I) (q : Query Ch) (hq : q.WF K)
    (hi : q.hasInclusion = true) (it : I) (hit : it ∈ tm) (hm : MatchesSpec K q (qp it)) :
    it ∈ prefilter K qp tm q := by
  have hE : ∀ x ∈ exactTerms K q, x ∈ pathWords K (qp it) := by
    intro x hx
    simp only [exactTerms, List.mem_append, List.mem_flatMap] at hx
    rcases hx with ⟨t, ht, hxt⟩ | ⟨t, ht, hxt⟩
    · exact incl_words K hK t _ (hq.1 t ht).2 (hm.1 t ht) x hxt
    · exact (wild_words K hK t _ (hq.2 t ht).2 (hm.2.1 t ht)).2 x hxt
  have hS : ∀ s ∈ suffixTerms K q, ∃ w ∈ pathWords K (qp it), s <:+ w := by
    intro s hs
    obtain ⟨t, ht, hts⟩ := List.mem_filterMap.1 hs
    exact (wild_words K hK t _ (hq.2 t ht).2 (hm.2.1 t ht)).1 s hts
  refine (mem_prefilter_iff K qp tm q it).2 ⟨candSets_ne_nil K qp tm q hq hi, fun x hx => ?_⟩
  simp only [candSets, List.mem_append, List.mem_map] at hx
  rcases hx with ⟨w, hw, rfl⟩ | ⟨s, hs, rfl⟩
  · exact (mem_lookup K qp tm w it).2 ⟨hit, hE w hw⟩
  · obtain ⟨w, hw, hsw⟩ := hS s hs
    exact (mem_unionLookup K qp tm _ it).2 ⟨hit, w,
      (mem_matchingKeys K qp tm s w).2 ⟨(mem_keys K qp tm w).2 ⟨it, hit, hw⟩, hsw⟩, hw⟩

theorem keepLoop_eq (re extra : I → Bool) (cap : Nat) (l acc : List I) (hacc : acc.length < cap) :
    keepLoop re extra cap l acc = (acc ++ l.filter (fun it => re it && extra it)).take cap := by
  induction l generalizing acc with
  | nil => simp [keepLoop, List.take_of_length_le (Nat.le_of_lt hacc)]
  | cons it rest ih =>
    rw [keepLoop, List.filter_cons]
    cases hre : re it with
    | false => simpa using ih acc hacc
    | true =>
      cases hex : extra it with
      | false =>
        -- not kept, and `acc` is not full
        simp only [Bool.and_false, Bool.false_eq_true, if_false, if_true]
        rw [if_neg (Nat.not_le.2 hacc)]
        exact ih acc hacc
      | true =>
        -- kept: the loop stops when that fills the result
        simp only [Bool.and_self, if_true]
        rw [show acc ++ it :: rest.filter (fun it => re it && extra it) =
          (acc ++ [it]) ++ rest.filter (fun it => re it && extra it) by simp]
        have hlen : (acc ++ [it]).length = acc.length + 1 := List.length_append
        split
        · exact (List.take_left' (by omega)).symm
        · exact ih _ (by omega)

/-- also for `cap = 0`, where the loop stops at the first item that passes the regular expressions -/
theorem keepLoop_prefix (re extra : I → Bool) (cap : Nat) (l acc : List I) :
    keepLoop re extra cap l acc <+: acc ++ l.filter (fun it => re it && extra it) := by
  induction l generalizing acc with
  | nil => simp [keepLoop]
  | cons it rest ih =>
    rw [keepLoop, List.filter_cons]
    cases hre : re it with
    | false => simpa using ih acc
    | true =>
      cases hex : extra it with
      | false =>
        simp only [Bool.and_false, Bool.false_eq_true, if_false, if_true]
        split
        · exact List.prefix_append _ _
        · exact ih acc
      | true =>
        simp only [Bool.and_self, if_true]
        rw [show acc ++ it :: rest.filter (fun it => re it && extra it) =
          (acc ++ [it]) ++ rest.filter (fun it => re it && extra it) by simp]
        split
        · exact List.prefix_append _ _
        · exact ih _

theorem mem_query (cap : Nat) (extra : I → Bool) (tm : List I) (q : Query Ch) (x : I)
    (h : x ∈ query K qp cap extra tm q) :
    x ∈ tm ∧ matchesRegex K q (qp x) = true ∧ extra x = true := by
  simp only [query] at h
  split at h
  · cases h
  · have := (keepLoop_prefix _ _ _ _ _).subset h
    simp only [List.nil_append, List.mem_filter, Bool.and_eq_true] at this
    exact ⟨(prefilter_sublist K qp tm q).subset this.1, this.2⟩

theorem setAdd_forall {α : Type} [DecidableEq α] {P : α → Prop} {l : List α} {x : α} (hl : ∀ y ∈ l, P y) (hx : P x) :
    ∀ y ∈ setAdd l x, P y := by
  intro y hy
  unfold setAdd at hy
  split at hy
  · exact hl y hy
  · rcases List.mem_append.1 hy with h | h
    · exact hl y h
    · exact List.mem_singleton.1 h ▸ hx

theorem parseTerm_wf (hK : K.Lawful) (q : Query Ch) (term : List Ch) (hq : q.WF K) : (parseTerm K q term).WF K := by
  have hfold : ∀ l : List Ch, (l.map K.fold).map K.fold = l.map K.fold := fun l => by simp [hK.fold_idem]
  cases term with
  | nil => exact hq
  | cons c rest =>
    by_cases hany : ((c :: rest).map K.fold).any K.isWord = true
    · -- without its first character, which is no word character, the term still has one
      have htail : K.isWord c = false →
          (rest.map K.fold).any K.isWord = true ∧ (rest.map K.fold).map K.fold = rest.map K.fold :=
        fun hc => ⟨by simpa [hK.word_fold, hc] using hany, hfold rest⟩
      simp only [parseTerm, hany, Bool.not_true, Bool.false_eq_true, if_false]
      by_cases hs : c = K.star
      · rw [if_pos hs]
        exact ⟨hq.1, setAdd_forall hq.2 (htail (hs ▸ hK.star_nonword))⟩
      · rw [if_neg hs]
        by_cases hd : c = K.dash
        · rw [if_pos hd]; exact ⟨hq.1, hq.2⟩
        · rw [if_neg hd]; exact ⟨setAdd_forall hq.1 ⟨hany, hfold _⟩, hq.2⟩
    · simp only [parseTerm, hany, Bool.not_false, if_true]
      exact hq

theorem parse_wf (hK : K.Lawful) (s : List Ch) : (parse K s).WF K :=
  List.foldlRecOn (motive := fun q => q.WF K) _ _ ⟨by simp, by simp⟩ fun q hq t _ => parseTerm_wf K hK q t hq

end
end AioslskVerif.Query
