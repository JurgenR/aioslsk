import AioslskVerif.Model.XferTasks
/-!
Besides single flight the invariant of the task model (C06) says what may still be alive for a transfer
whose call is in progress / has returned / that left the list: tasks the call cancelled (it waits for
them), and *late* download initialisations — created by a peer request that arrived while the call held
the state lock — which are still before `state.initialize()` or were refused.  Neither kind ever acts on
the transfer.  The invariant is read task by task (`TaskOk`), so an op re-establishes it for the task and
the record it writes only.
-/
namespace AioslskVerif.Tasks
open AioslskVerif.Sched (St Dir)

@[simp] theorem upd_same {α} (f : Nat → α) (k : Nat) (v : α) : upd f k v k = v := by simp [upd]
theorem upd_other {α} (f : Nat → α) {k i : Nat} (v : α) (h : i ≠ k) : upd f k v i = f i := by simp [upd, h]

theorem upd_self {α} (f : Nat → α) (k : Nat) : upd f k (f k) = f := by
  funext i
  by_cases h : i = k <;> simp [upd, h]

/-- a download initialisation that has not got past `state.initialize()` -/
def LateShape (tk : Task) : Prop :=
  tk.kind = .initDownload ∧ (tk.phase = .created ∨ tk.phase = .blocked ∨ tk.phase = .refused)

/-- a task that will not act on its transfer any more: cancelled, or a late initialisation -/
def Inert (tk : Task) : Prop := tk.cancelReq = true ∨ LateShape tk

structure Inv (s : TS) : Prop where
  fresh : ∀ t, s.nt ≤ t → (s.tasks t).live = false
  bound : ∀ t, (s.tasks t).live = true → (s.tasks t).xfer < s.nx
  /-- single flight: a live task is the one its transfer's slot holds -/
  single : ∀ t, (s.tasks t).live = true → (s.xs (s.tasks t).xfer).slotOf (s.tasks t).kind = some t
  waits : ∀ k, (s.xs k).locked ≠ none → ∀ t, (s.tasks t).live = true → (s.tasks t).xfer = k →
    t ∈ (s.xs k).waitFor ∨ LateShape (s.tasks t)
  quietInert : ∀ k, (s.xs k).quiet = true → ∀ t, (s.tasks t).live = true → (s.tasks t).xfer = k → Inert (s.tasks t)
  quietSt : ∀ k, (s.xs k).quiet = true → (s.xs k).removed = true ∨ (s.xs k).st = .aborted ∨ (s.xs k).st = .paused ∨
    ((s.xs k).st = .failed ∧ (s.xs k).retry = false ∧ (s.xs k).dir = .download)
  removedCancelled : ∀ k, (s.xs k).removed = true → ∀ t, (s.tasks t).live = true → (s.tasks t).xfer = k →
    (s.tasks t).cancelReq = true

/-- the fields the property talks about (state, remotely_queued, queue_attempts, every action of a
background task on behalf of the transfer, membership of the transfer list) -/
def obs (x : XT) : St × Bool × Nat × Nat × Bool × Bool := (x.st, x.rq, x.attempts, x.acts, x.removed, x.quiet)

theorem obs_removed {x x' : XT} (h : obs x' = obs x) : x'.removed = x.removed := congrArg (·.2.2.2.2.1) h
theorem obs_quiet {x x' : XT} (h : obs x' = obs x) : x'.quiet = x.quiet := congrArg (·.2.2.2.2.2) h

theorem obs_upd {f : Nat → XT} {k : Nat} {x' : XT} (h : obs x' = obs (f k)) (i : Nat) :
    obs (upd f k x' i) = obs (f i) := by
  by_cases e : i = k
  · rw [e, upd_same, h]
  · rw [upd_other _ _ e]

theorem live_phase {t : Task} :
    t.live = true ↔ (t.phase = .created ∨ t.phase = .running ∨ t.phase = .blocked ∨ t.phase = .refused) := by
  cases t with | mk x k p c => cases p <;> simp [Task.live]

theorem inv_init : Inv {} where
  fresh _ _ := rfl
  bound _ hl := nomatch hl
  single _ hl := nomatch hl
  waits _ hk := absurd rfl hk
  quietInert _ hq := nomatch hq
  quietSt _ hq := nomatch hq
  removedCancelled _ hr := nomatch hr

/-- what `Inv` says about a live task `t` with record `tk`, read off the record `x` of its transfer -/
structure TaskOk (x : XT) (t : Nat) (tk : Task) : Prop where
  slot : x.slotOf tk.kind = some t
  waited : x.locked ≠ none → t ∈ x.waitFor ∨ LateShape tk
  inert : x.quiet = true → Inert tk
  cancelled : x.removed = true → tk.cancelReq = true

/-- the states of a transfer that no call and no task is working on (`Inv.quietSt`) -/
def QuietSt (x : XT) : Prop :=
  x.removed = true ∨ x.st = .aborted ∨ x.st = .paused ∨ (x.st = .failed ∧ x.retry = false ∧ x.dir = .download)

theorem Inv.taskOk {s : TS} (h : Inv s) {t k : Nat} (hl : (s.tasks t).live = true) (hx : (s.tasks t).xfer = k) :
    TaskOk (s.xs k) t (s.tasks t) := by
  subst hx
  exact ⟨h.single t hl, fun hk => h.waits _ hk t hl rfl, fun hq => h.quietInert _ hq t hl rfl,
    fun hr => h.removedCancelled _ hr t hl rfl⟩

theorem Inv.of_taskOk {s : TS} (fresh : ∀ t, s.nt ≤ t → (s.tasks t).live = false)
    (ok : ∀ t, (s.tasks t).live = true → (s.tasks t).xfer < s.nx ∧ TaskOk (s.xs (s.tasks t).xfer) t (s.tasks t))
    (qs : ∀ k, (s.xs k).quiet = true → QuietSt (s.xs k)) : Inv s where
  fresh := fresh
  bound t hl := (ok t hl).1
  single t hl := (ok t hl).2.slot
  waits k hk t hl hx := by subst hx; exact (ok t hl).2.waited hk
  quietInert k hq t hl hx := by subst hx; exact (ok t hl).2.inert hq
  quietSt := qs
  removedCancelled k hr t hl hx := by subst hx; exact (ok t hl).2.cancelled hr

theorem TaskOk.mono {x : XT} {t : Nat} {tk tk' : Task} (h : TaskOk x t tk) (hk : tk'.kind = tk.kind)
    (hc : tk.cancelReq = true → tk'.cancelReq = true) (hl : LateShape tk → LateShape tk') : TaskOk x t tk' where
  slot := hk ▸ h.slot
  waited hlk := (h.waited hlk).imp_right hl
  inert hq := (h.inert hq).imp hc hl
  cancelled hr := hc (h.cancelled hr)

/-- what a call writes: the lock, the wait list, list membership -/
def XT.lock (x : XT) : Option CallKind × List Nat × Bool := (x.locked, x.waitFor, x.removed)

/-- … and the slots, which the cycles, peer requests and done-callbacks write as well -/
def XT.ctl (x : XT) : Option Nat × Option Nat × Option CallKind × List Nat × Bool := (x.rqSlot, x.ttSlot, x.lock)

theorem TaskOk.congr {x x' : XT} {t : Nat} {tk : Task} (h : TaskOk x t tk) (hs : x'.slotOf tk.kind = x.slotOf tk.kind)
    (hc : x'.lock = x.lock) (hq : x'.quiet = true → x.quiet = true) : TaskOk x' t tk := by
  simp only [XT.lock, Prod.mk.injEq] at hc
  obtain ⟨hl, hw, hr⟩ := hc
  exact ⟨hs ▸ h.slot, by rw [hl, hw]; exact h.waited, fun q => h.inert (hq q), by rw [hr]; exact h.cancelled⟩

theorem TaskOk.congr_ctl {x x' : XT} {t : Nat} {tk : Task} (h : TaskOk x t tk) (hc : x'.ctl = x.ctl)
    (hq : x'.quiet = true → x.quiet = true) : TaskOk x' t tk := by
  simp only [XT.ctl, Prod.mk.injEq] at hc
  obtain ⟨h1, h2, h3⟩ := hc
  refine h.congr ?_ h3 hq
  cases tk.kind <;> simp only [XT.slotOf, h1, h2]

theorem Inv.setX {s : TS} (h : Inv s) (k : Nat) (x' : XT)
    (hok : ∀ t, (s.tasks t).live = true → (s.tasks t).xfer = k → TaskOk x' t (s.tasks t))
    (hq : x'.quiet = true → QuietSt x') : Inv { s with xs := upd s.xs k x' } := by
  refine .of_taskOk h.fresh (fun t hl => ⟨h.bound t hl, ?_⟩) (fun j hj => ?_)
  · show TaskOk (upd s.xs k x' (s.tasks t).xfer) t (s.tasks t)
    by_cases e : (s.tasks t).xfer = k
    · rw [e, upd_same]; exact hok t hl e
    · rw [upd_other _ _ e]; exact h.taskOk hl rfl
  · change (upd s.xs k x' j).quiet = true at hj
    show QuietSt (upd s.xs k x' j)
    by_cases e : j = k
    · subst e; rw [upd_same] at hj ⊢; exact hq hj
    · rw [upd_other _ _ e] at hj ⊢; exact h.quietSt j hj

theorem Inv.setX_ctl {s : TS} (h : Inv s) (k : Nat) (x' : XT) (hc : x'.ctl = (s.xs k).ctl)
    (hq : x'.quiet = true → (s.xs k).quiet = true ∧ QuietSt x') : Inv { s with xs := upd s.xs k x' } :=
  h.setX k x' (fun _ hl hx => (h.taskOk hl hx).congr_ctl hc fun q => (hq q).1) fun q => (hq q).2

theorem Inv.setTasks {s : TS} (h : Inv s) (T : Nat → Task)
    (hT : ∀ t, (T t).live = true → (s.tasks t).live = true ∧ (T t).xfer = (s.tasks t).xfer ∧
      TaskOk (s.xs (s.tasks t).xfer) t (T t)) : Inv { s with tasks := T } := by
  refine .of_taskOk (fun t ht => ?_) (fun t hl => ?_) h.quietSt
  · refine Bool.eq_false_iff.mpr fun hl => ?_
    exact Bool.false_ne_true ((h.fresh t ht).symm.trans (hT t hl).1)
  · obtain ⟨h1, h2, h3⟩ := hT t hl
    show (T t).xfer < s.nx ∧ TaskOk (s.xs (T t).xfer) t (T t)
    rw [h2]
    exact ⟨h.bound t h1, h3⟩

theorem Inv.setTask {s : TS} (h : Inv s) (t : Nat) (tk' : Task) (hx : tk'.xfer = (s.tasks t).xfer)
    (hok : tk'.live = true → (s.tasks t).live = true ∧ TaskOk (s.xs (s.tasks t).xfer) t tk') :
    Inv { s with tasks := upd s.tasks t tk' } := by
  refine h.setTasks (upd s.tasks t tk') fun u hu => ?_
  by_cases e : u = t
  · subst e
    rw [upd_same] at hu ⊢
    exact ⟨(hok hu).1, hx, (hok hu).2⟩
  · rw [upd_other _ _ e] at hu ⊢
    exact ⟨hu, rfl, h.taskOk hu rfl⟩

theorem Inv.addTask {s : TS} (h : Inv s) (tk : Task) (hb : tk.xfer < s.nx) (hok : TaskOk (s.xs tk.xfer) s.nt tk) :
    Inv { s with tasks := upd s.tasks s.nt tk, nt := s.nt + 1 } := by
  refine .of_taskOk (fun t (ht : s.nt + 1 ≤ t) => ?_) (fun t hl => ?_) h.quietSt
  · show (upd s.tasks s.nt tk t).live = false
    rw [upd_other _ _ (by omega)]
    exact h.fresh t (by omega)
  · dsimp only at hl ⊢
    by_cases e : t = s.nt
    · subst e; rw [upd_same]; exact ⟨hb, hok⟩
    · rw [upd_other _ _ e] at hl ⊢; exact ⟨h.bound t hl, h.taskOk hl rfl⟩

theorem Inv.addX {s : TS} (h : Inv s) (x : XT) (hq : x.quiet = false) :
    Inv { s with xs := upd s.xs s.nx x, nx := s.nx + 1 } :=
  have h1 := h.setX s.nx x (fun t hl hx => absurd hx (Nat.ne_of_lt (h.bound t hl)))
    (fun q => absurd q (Bool.eq_false_iff.mp hq))
  { h1 with bound := fun t hl => Nat.lt_succ_of_lt (h1.bound t hl) }

theorem spawn_shape (s : TS) (k : Nat) (kd : TKind) : ∃ x' : XT,
    s.spawn k kd = { s with tasks := upd s.tasks s.nt { xfer := k, kind := kd, phase := .created }, nt := s.nt + 1,
                            xs := upd s.xs k x' } ∧
      x'.slotOf kd = some s.nt ∧
      (∀ kd', (s.xs k).slotOf kd' = (s.xs k).slotOf kd ∨ x'.slotOf kd' = (s.xs k).slotOf kd') ∧
      x'.lock = (s.xs k).lock ∧ obs x' = obs (s.xs k) := by
  cases kd
  all_goals
    refine ⟨_, rfl, rfl, fun kd' => ?_, rfl, rfl⟩
    cases kd' <;> simp [XT.slotOf]

theorem spawn_frame (s : TS) (kd : TKind) {j k : Nat} (e : k ≠ j) :
    (s.spawn j kd).xs k = s.xs k ∧ (s.spawn j kd).nx = s.nx :=
  ⟨upd_other _ _ e, rfl⟩

theorem slotFree_ne_live {s : TS} {o : Option Nat} (hf : s.slotFree o = true) {t : Nat} (hl : (s.tasks t).live = true) :
    o ≠ some t := by
  intro e
  simp [e, TS.slotFree, hl] at hf

/-- `hlock`: a cycle or a peer request when no call is in progress, or a download initialisation started by a peer
request while a call holds the lock -/
theorem inv_spawn {s : TS} (h : Inv s) {k : Nat} {kd : TKind} {x : XT} (hx : s.xs k = x) (hk : k < s.nx)
    (hf : s.slotFree (x.slotOf kd) = true) (hlock : x.locked = none ∨ kd = .initDownload)
    (hq : x.quiet = false) (hr : x.removed = false) : Inv (s.spawn k kd) := by
  subst hx
  obtain ⟨x', e, hme, hoth, hc, hobs⟩ := spawn_shape s k kd
  have hq' : x'.quiet ≠ true := Bool.eq_false_iff.mp ((obs_quiet hobs).trans hq)
  have h1 : Inv { s with xs := upd s.xs k x' } := by
    refine h.setX k x' (fun t hl hx => ?_) (fun q => absurd q hq')
    -- a live task of `k` sits in the other slot: the one that is written is free
    refine (h.taskOk hl hx).congr ?_ hc (fun q => absurd q hq')
    exact (hoth _).resolve_left fun e => slotFree_ne_live hf hl (e ▸ (h.taskOk hl hx).slot)
  rw [e]
  refine h1.addTask { xfer := k, kind := kd, phase := .created } hk ?_
  show TaskOk (upd s.xs k x' k) s.nt _
  rw [upd_same]
  refine ⟨hme, fun hlk => ?_, fun q => absurd q hq', fun r => ?_⟩
  · exact hlock.elim (fun e => absurd ((congrArg (·.1) hc).trans e) hlk) fun e => .inr ⟨e, .inl rfl⟩
  · rw [obs_removed hobs, hr] at r; cases r

theorem spawnable_some {s : TS} {k : Nat} {kd : TKind} (h : s.spawnable k = some kd) :
    k < s.nx ∧ (s.xs k).removed = false ∧ (s.xs k).locked = none ∧ s.slotFree ((s.xs k).slotOf kd) = true ∧
      ((s.xs k).st = .queued ∨ (s.xs k).st = .incomplete ∨ ((s.xs k).st = .failed ∧ (s.xs k).retry = true)) := by
  unfold TS.spawnable at h
  simp only at h
  split at h
  · rename_i hc
    obtain ⟨hk, hr, hl⟩ := hc
    split at h
    · split at h
      · rename_i hd; cases h; exact ⟨hk, hr, hl, hd.2.2, hd.1⟩
      · cases h
    · split at h
      · rename_i hd; cases h; exact ⟨hk, hr, hl, hd.2, .inl hd.1⟩
      · cases h
  · cases h

theorem not_quiet_of_spawnable {s : TS} (h : Inv s) {k : Nat} (hr : (s.xs k).removed = false)
    (hs : (s.xs k).st = .queued ∨ (s.xs k).st = .incomplete ∨ ((s.xs k).st = .failed ∧ (s.xs k).retry = true)) :
    (s.xs k).quiet = false := by
  refine Bool.eq_false_iff.mpr fun hq => ?_
  rcases h.quietSt k hq with h1 | h1 | h1 | h1
  · rw [hr] at h1; cases h1
  · simp [h1] at hs
  · simp [h1] at hs
  · simp [h1.1, h1.2] at hs

theorem inv_trySpawn {s : TS} (h : Inv s) (k : Nat) : Inv (s.trySpawn k) := by
  unfold TS.trySpawn
  split
  · rename_i kd hsp
    obtain ⟨hk, hr, hl, hf, hs⟩ := spawnable_some hsp
    exact inv_spawn h rfl hk hf (.inl hl) (not_quiet_of_spawnable h hr hs) hr
  · exact h

theorem inv_peerRequest {s : TS} (h : Inv s) (k : Nat) : Inv (step s (.peerRequest k)) := by
  rw [step]
  split
  · rename_i hc
    obtain ⟨hk, _, hr, hf⟩ := hc
    split
    · rename_i hl
      split
      · rename_i hs
        exact inv_spawn h rfl hk hf (.inl hl) (not_quiet_of_spawnable h hr (hs.elim .inl (.inr ∘ .inl))) hr
      · split
        · -- FAILED: re-queued by the peer first
          have h1 := h.setX_ctl k { s.xs k with st := .queued, rq := true, quiet := false } rfl (fun q => by cases q)
          exact inv_spawn h1 (upd_same ..) hk hf (.inr rfl) rfl hr
        · exact h
    · -- a call holds the lock
      split
      · rename_i hs
        exact inv_spawn h rfl hk hf (.inr rfl) (not_quiet_of_spawnable h hr (hs.elim .inl (.inr ∘ .inl))) hr
      · exact h
  · exact h

/-- a task that still acts on its transfer when it is run: it was not cancelled and is inside its work (`running`) or
before its first step — which a download initialisation only gets past with the state lock free and a state that
`initialize()` accepts -/
def Acting (tk : Task) (x : XT) : Prop :=
  tk.cancelReq = false ∧ (tk.phase = .running ∨
    tk.phase = .created ∧ (tk.kind = .initDownload → x.lockHeld = false ∧ (x.st = .queued ∨ x.st = .incomplete)))

/-- the shapes of `taskStart t` / `taskEnd t o` -/
inductive TaskStep (s : TS) (t : Nat) : TS → Prop
  | skip : TaskStep s t s
  /-- the task changes phase and nothing else happens: it ends, or stays a late initialisation -/
  | silent (p : Phase) (hp : ({ s.tasks t with phase := p } : Task).live = true →
        (s.tasks t).live = true ∧ (LateShape (s.tasks t) → LateShape { s.tasks t with phase := p })) :
      TaskStep s t { s with tasks := upd s.tasks t { s.tasks t with phase := p } }
  /-- an acting task writes state, flags and counters of its transfer -/
  | acts (p : Phase) (x' : XT) (ha : Acting (s.tasks t) (s.xs (s.tasks t).xfer))
      (hc : (x'.ctl, x'.quiet) = ((s.xs (s.tasks t).xfer).ctl, (s.xs (s.tasks t).xfer).quiet)) :
      TaskStep s t { s with tasks := upd s.tasks t { s.tasks t with phase := p }, xs := upd s.xs (s.tasks t).xfer x' }

theorem TaskStep.ends (s : TS) (t : Nat) :
    TaskStep s t { s with tasks := upd s.tasks t { s.tasks t with phase := .done } } :=
  .silent .done (fun hl => nomatch hl)

theorem taskStart_step (s : TS) (t : Nat) : TaskStep s t (step s (.taskStart t)) := by
  simp only [step]
  split
  next hp =>
    have hl : (s.tasks t).live = true := live_phase.mpr (.inl hp)
    split
    next => exact .ends s t
    next hnc =>
      have hnc : (s.tasks t).cancelReq = false := Bool.eq_false_iff.mpr hnc
      split
      next hkd => -- `queueRemotely`
        exact .acts _ _ ⟨hnc, .inr ⟨hp, fun e => nomatch hkd.symm.trans e⟩⟩ rfl
      next hkd => -- `initUpload`
        exact .acts _ _ ⟨hnc, .inr ⟨hp, fun e => nomatch hkd.symm.trans e⟩⟩ (by split <;> rfl)
      next hkd => -- `initDownload`: blocked by the lock, else accepted or refused by `initialize()`
        split
        next => exact .silent _ fun _ => ⟨hl, fun _ => ⟨hkd, .inr (.inl rfl)⟩⟩
        next hnl =>
          split
          next hs => exact .acts _ _ ⟨hnc, .inr ⟨hp, fun _ => ⟨Bool.eq_false_iff.mpr hnl, hs⟩⟩⟩ rfl
          next => exact .silent _ fun _ => ⟨hl, fun _ => ⟨hkd, .inr (.inr rfl)⟩⟩
  next => exact .skip

theorem taskEnd_step (s : TS) (t : Nat) (o : Outcome) : TaskStep s t (step s (.taskEnd t o)) := by
  rw [step]
  split
  next hp =>
    split
    next => exact .ends s t
    next hnc =>
      have ha : Acting (s.tasks t) (s.xs (s.tasks t).xfer) := ⟨Bool.eq_false_iff.mpr hnc, .inl hp⟩
      -- where the task goes on (`transferring`, `failing`) its record is written back unchanged
      have goesOn (x' : XT) (hc : (x'.ctl, x'.quiet) = ((s.xs (s.tasks t).xfer).ctl, (s.xs (s.tasks t).xfer).quiet)) :
          TaskStep s t { s with xs := upd s.xs (s.tasks t).xfer x' } := by
        have := TaskStep.acts (s.tasks t).phase x' ha hc
        rwa [upd_self] at this
      -- the arms of `match tk.kind, o` in the order of `step`
      split
      next => exact .acts _ _ ha rfl                      -- `queueRemotely`, `ok`
      next => exact .acts _ _ ha (by split <;> rfl)       -- `queueRemotely`, failed
      next => exact goesOn _ (by split <;> rfl)           -- `transferring`
      next => exact .acts _ _ ha (by split <;> rfl)       -- `toQueue`
      next => exact .acts _ _ ha (by split <;> rfl)       -- `complete`
      next => exact .acts _ _ ha (by split <;> rfl)       -- `incomplete`
      next => exact goesOn _ (by split <;> rfl)           -- `failing`
      next => exact .acts _ _ ha (by split <;> rfl)       -- any other outcome
  next => -- not running: a refused or a cancelled blocked initialisation ends
    split
    next => exact .ends s t
    next =>
      split
      next => exact .ends s t
      next => exact .skip

theorem Inv.acting {s : TS} (h : Inv s) {t : Nat} (ha : Acting (s.tasks t) (s.xs (s.tasks t).xfer)) :
    (s.tasks t).live = true ∧ (s.xs (s.tasks t).xfer).quiet = false ∧
      ((s.xs (s.tasks t).xfer).locked ≠ none → t ∈ (s.xs (s.tasks t).xfer).waitFor) := by
  obtain ⟨hc, hp⟩ := ha
  have hl : (s.tasks t).live = true := live_phase.mpr (hp.elim (.inr ∘ .inl) fun c => .inl c.1)
  have ok := h.taskOk hl rfl
  have hr : (s.xs (s.tasks t).xfer).removed = false :=
    Bool.eq_false_iff.mpr fun r => by rw [ok.cancelled r] at hc; cases hc
  -- if it is a late initialisation it is about to pass `state.initialize()`
  have late : LateShape (s.tasks t) → (s.xs (s.tasks t).xfer).lockHeld = false ∧
      ((s.xs (s.tasks t).xfer).st = .queued ∨ (s.xs (s.tasks t).xfer).st = .incomplete) := by
    intro hls
    rcases hp with hp | hp
    · rcases hls.2 with e | e | e <;> rw [hp] at e <;> cases e
    · exact hp.2 hls.1
  refine ⟨hl, Bool.eq_false_iff.mpr fun q => ?_, fun hlk => (ok.waited hlk).resolve_right fun hls => ?_⟩
  · rcases ok.inert q with e | hls
    · rw [e] at hc; cases hc
    · have := not_quiet_of_spawnable h hr ((late hls).2.elim .inl (.inr ∘ .inl))
      rw [q] at this; cases this
  · -- the lock is held as long as the transfer is in the list
    have := (late hls).1
    cases hlo : (s.xs (s.tasks t).xfer).locked with
    | none => exact hlk hlo
    | some c => simp [XT.lockHeld, hlo, hr] at this

theorem Inv.taskStep {s s' : TS} (h : Inv s) {t : Nat} (hs : TaskStep s t s') : Inv s' := by
  cases hs with
  | skip => exact h
  | silent p hp =>
    exact h.setTask t _ rfl fun hl => ⟨(hp hl).1, (h.taskOk (hp hl).1 rfl).mono rfl id (hp hl).2⟩
  | acts p x' ha hc =>
    obtain ⟨hl, hnq, hw⟩ := h.acting ha
    have ok := h.taskOk hl rfl
    have h1 := h.setTask t { s.tasks t with phase := p } rfl fun _ =>
      ⟨hl, ok.slot, fun hk => .inl (hw hk), fun q => absurd q (Bool.eq_false_iff.mp hnq), ok.cancelled⟩
    exact h1.setX_ctl _ x' (Prod.mk.inj hc).1 fun q => absurd ((Prod.mk.inj hc).2 ▸ q) (Bool.eq_false_iff.mp hnq)

theorem TaskStep.xs_quiet {s s' : TS} {t : Nat} (hs : TaskStep s t s') (h : Inv s) {k : Nat}
    (hq : (s.xs k).quiet = true) : s'.xs k = s.xs k ∧ s'.nx = s.nx := by
  cases hs with
  | skip => exact ⟨rfl, rfl⟩
  | silent => exact ⟨rfl, rfl⟩
  | acts p x' ha =>
    refine ⟨upd_other _ _ fun e => ?_, rfl⟩
    have := (h.acting ha).2.1
    rw [← e, hq] at this; cases this

theorem doneCallback_shape (s : TS) (t : Nat) : step s (.doneCallback t) = s ∨ ∃ x' : XT,
    step s (.doneCallback t) =
        { s with tasks := upd s.tasks t { s.tasks t with phase := .gone }, xs := upd s.xs (s.tasks t).xfer x' } ∧
      (s.tasks t).phase = .done ∧
      (∀ kd, x'.slotOf kd = (s.xs (s.tasks t).xfer).slotOf kd ∨ (s.xs (s.tasks t).xfer).slotOf kd = some t) ∧
      x'.lock = (s.xs (s.tasks t).xfer).lock ∧ obs x' = obs (s.xs (s.tasks t).xfer) ∧
      (QuietSt (s.xs (s.tasks t).xfer) → QuietSt x') := by
  simp only [step]
  split
  next hp =>
    -- which slot the task's kind uses, then whether that slot still holds `t`
    split
    next => -- `queueRemotely`: `rqSlot`
      split
      next hs =>
        refine .inr ⟨_, rfl, hp, fun kd => ?_, rfl, rfl, id⟩
        cases kd with
        | queueRemotely => exact .inr hs
        | initUpload | initDownload => exact .inl rfl
      next => exact .inr ⟨_, rfl, hp, fun _ => .inl rfl, rfl, rfl, id⟩
    next => -- an initialisation: `ttSlot`
      split
      next hs =>
        refine .inr ⟨_, rfl, hp, fun kd => ?_, rfl, rfl, id⟩
        cases kd with
        | queueRemotely => exact .inl rfl
        | initUpload | initDownload => exact .inr hs
      next => exact .inr ⟨_, rfl, hp, fun _ => .inl rfl, rfl, rfl, id⟩
  next => exact .inl rfl

theorem inv_doneCallback {s : TS} (h : Inv s) (t : Nat) : Inv (step s (.doneCallback t)) := by
  rcases doneCallback_shape s t with e | ⟨x', e, hp, hslot, hc, hobs, hqs⟩
  · rw [e]; exact h
  · rw [e]
    refine (h.setX _ x' (fun u hl hx => ?_) (fun q => ?_)).setTask t _ rfl (fun hl => nomatch hl)
    · -- a live task is another one than `t`
      have hu : u ≠ t := fun e => by subst e; simp [Task.live, hp] at hl
      have ok := h.taskOk hl hx
      refine ok.congr ((hslot _).resolve_right fun e => hu ?_) hc (obs_quiet hobs ▸ id)
      exact Option.some.inj (ok.slot.symm.trans e)
    · exact hqs (h.quietSt _ (obs_quiet hobs ▸ q))

theorem mem_liveIn {s : TS} {o : Option Nat} {t : Nat} (ho : o = some t) (hl : (s.tasks t).live = true) :
    t ∈ liveIn s o := by
  subst ho; simp [liveIn, hl]

theorem mem_slots {s : TS} (h : Inv s) {k t : Nat} (hl : (s.tasks t).live = true) (hx : (s.tasks t).xfer = k) :
    t ∈ liveIn s (s.xs k).rqSlot ++ liveIn s (s.xs k).ttSlot := by
  have := (h.taskOk hl hx).slot
  simp only [List.mem_append]
  cases hk : (s.tasks t).kind <;> simp only [XT.slotOf, hk] at this
  · exact .inl (mem_liveIn this hl)
  · exact .inr (mem_liveIn this hl)
  · exact .inr (mem_liveIn this hl)

theorem cancelSlots_task (s : TS) (k t : Nat) : ∃ c, (s.cancelSlots k).tasks t = { s.tasks t with cancelReq := c } ∧
    ((s.tasks t).cancelReq = true ∨ t ∈ liveIn s (s.xs k).rqSlot ++ liveIn s (s.xs k).ttSlot → c = true) := by
  unfold TS.cancelSlots
  dsimp only
  split
  · exact ⟨true, rfl, fun _ => rfl⟩
  · rename_i hn
    exact ⟨_, rfl, fun hc => hc.resolve_right hn⟩

theorem cancelSlots_frame (s : TS) (j : Nat) : (s.cancelSlots j).xs = s.xs ∧ (s.cancelSlots j).nx = s.nx :=
  ⟨rfl, rfl⟩

/-- the first step of a call, and the `abort` part of `remove` getting through: the call waits for the slot tasks it
cancels; by single flight these are all the live tasks of `k` -/
theorem inv_lockUpdate {s : TS} (h : Inv s) (k : Nat) (l : Option CallKind) (r : Bool) (st : St)
    (hq : (s.xs k).quiet = true → QuietSt { s.xs k with removed := r, st := st }) :
    Inv { s.cancelSlots k with xs := upd s.xs k { s.xs k with
      locked := l, waitFor := liveIn s (s.xs k).rqSlot ++ liveIn s (s.xs k).ttSlot, removed := r, st := st } } := by
  have hc : Inv (s.cancelSlots k) := by
    refine h.setTasks (s.cancelSlots k).tasks fun t hl => ?_
    obtain ⟨c, e, hc⟩ := cancelSlots_task s k t
    rw [e] at hl ⊢
    exact ⟨hl, rfl, (h.taskOk hl rfl).mono rfl (fun q => hc (.inl q)) id⟩
  refine hc.setX k _ (fun t hl hx => ?_) hq
  obtain ⟨c, e, hc⟩ := cancelSlots_task s k t
  rw [e] at hl hx ⊢
  have hm := mem_slots h hl hx
  exact ⟨(h.taskOk hl hx).slot, fun _ => .inl hm, fun _ => .inl (hc (.inr hm)), fun _ => hc (.inr hm)⟩

theorem unblock_task (s : TS) (o : Option Nat) (t : Nat) : s.unblock o t = s.tasks t ∨
    (s.tasks t).phase = .blocked ∧ s.unblock o t = { s.tasks t with phase := .refused } := by
  unfold TS.unblock
  split
  · split
    · rename_i u hb
      by_cases e : t = u
      · subst e; exact .inr ⟨hb, upd_same ..⟩
      · exact .inl (upd_other _ _ e)
    · exact .inl rfl
  · exact .inl rfl

theorem inv_unblock {s : TS} (h : Inv s) (o : Option Nat) : Inv { s with tasks := s.unblock o } := by
  refine h.setTasks (s.unblock o) fun t hl => ?_
  rcases unblock_task s o t with e | ⟨hb, e⟩
  · rw [e] at hl ⊢; exact ⟨hl, rfl, h.taskOk hl rfl⟩
  · have hl' : (s.tasks t).live = true := live_phase.mpr (.inr (.inr (.inl hb)))
    rw [e]
    exact ⟨hl', rfl, (h.taskOk hl' rfl).mono rfl id fun hls => ⟨hls.1, .inr (.inr rfl)⟩⟩

theorem dead_of_all {s : TS} {l : List Nat} (hw : l.all (fun t => !(s.tasks t).live) = true) {t : Nat} (ht : t ∈ l) :
    (s.tasks t).live = false := by
  simpa using List.all_eq_true.mp hw t ht

theorem inv_callResume {s : TS} (h : Inv s) (k : Nat) : Inv (step s (.callResume k)) := by
  rw [step]
  split
  · rename_i c hc
    split
    · rename_i hw
      refine inv_unblock (h.setX k _ (fun t hl hx => ?_) (fun _ => ?_)) _
      · -- what the call waited for is dead: what is alive is a late initialisation
        have ok := h.taskOk hl hx
        refine ⟨ok.slot, fun hk => absurd rfl hk, fun _ => ?_, ok.cancelled⟩
        refine .inr ((ok.waited (by rw [hc]; nofun)).resolve_left fun hm => ?_)
        exact Bool.false_ne_true ((dead_of_all hw.1 hm).symm.trans hl)
      · show (s.xs k).removed = true ∨ _
        cases hr : (s.xs k).removed
        · simp only [Bool.false_eq_true, if_false, false_or]
          by_cases hp : c = .pause
          · exact .inr (.inl (by simp [hp]))
          · exact .inl (by simp [hp])
        · exact .inl rfl
    · exact h
  · exact h

theorem inv_step {s : TS} (h : Inv s) (op : Op) : Inv (step s op) := by
  cases op with
  | addDownload | addUpload | addFailed => exact h.addX _ rfl
  | cycle ks => exact List.foldlRecOn ks TS.trySpawn h fun _ h k _ => inv_trySpawn h k
  | peerRequest k => exact inv_peerRequest h k
  | taskStart t => exact h.taskStep (taskStart_step s t)
  | taskEnd t o => exact h.taskStep (taskEnd_step s t o)
  | doneCallback t => exact inv_doneCallback h t
  | call k c =>
    rw [step]
    split
    · rename_i hc
      refine inv_lockUpdate h k _ _ _ fun q => ?_
      exact (h.quietSt k q).imp_left fun r => by rw [hc.2.1] at r; cases r
    · exact h
  | removeMid k =>
    rw [step]
    split
    · exact inv_lockUpdate h k _ _ _ fun _ => .inl rfl
    · exact h
  | callResume k => exact inv_callResume h k
  | requeue k =>
    rw [step]
    split
    · exact h.setX_ctl k _ rfl fun q => by cases q
    · exact h
  | peerFail k =>
    rw [step]
    split
    · rename_i hc
      exact h.setX_ctl k _ rfl fun q => ⟨q, .inr (.inr (.inr ⟨rfl, rfl, hc.2.1⟩))⟩
    · exact h
  | peerUploadFailed k =>
    rw [step]
    split
    · exact h.setX_ctl k _ rfl fun q => ⟨q, h.quietSt k q⟩
    · exact h
  | peerQueueStart k =>
    rw [step]
    split
    · exact h.setX_ctl k _ rfl fun q => ⟨q, h.quietSt k q⟩
    · exact h
  | peerQueueEnd k =>
    rw [step]
    split
    · split
      · exact h.setX_ctl k _ rfl fun q => by cases q
      · exact h.setX_ctl k _ rfl fun q => ⟨q, h.quietSt k q⟩
    · exact h

theorem inv_run (ops : List Op) : Inv (run ops) :=
  List.foldlRecOn ops step inv_init fun _ h op _ => inv_step h op

theorem cycle_obs (s : TS) (ks : List Nat) (k : Nat) :
    obs ((ks.foldl TS.trySpawn s).xs k) = obs (s.xs k) ∧ (ks.foldl TS.trySpawn s).nx = s.nx := by
  refine List.foldlRecOn ks TS.trySpawn (motive := fun s' => obs (s'.xs k) = obs (s.xs k) ∧ s'.nx = s.nx) ⟨rfl, rfl⟩ ?_
  intro s' ih j _
  unfold TS.trySpawn
  split
  · rename_i kd _
    obtain ⟨x', e, _, _, _, hobs⟩ := spawn_shape s' j kd
    rw [e]
    exact ⟨(obs_upd hobs k).trans ih.1, ih.2⟩
  · exact ih

theorem obs_step_of_quiet {s : TS} (h : Inv s) {k : Nat} (hk : k < s.nx) (hq : (s.xs k).quiet = true) (op : Op)
    (hn : op.addresses k = false) : obs ((step s op).xs k) = obs (s.xs k) ∧ k < (step s op).nx := by
  have hne : ∀ {j : Nat}, (j == k) = false → k ≠ j := fun hj e => by simp [e] at hj
  cases op with
  | addDownload | addUpload | addFailed =>
    exact ⟨congrArg obs (upd_other _ _ (Nat.ne_of_lt hk)), Nat.lt_succ_of_lt hk⟩
  | cycle ks =>
    have := cycle_obs s ks k
    exact ⟨this.1, this.2.symm ▸ hk⟩
  | taskStart t =>
    have := (taskStart_step s t).xs_quiet h hq
    exact ⟨congrArg obs this.1, this.2.symm ▸ hk⟩
  | taskEnd t o =>
    have := (taskEnd_step s t o).xs_quiet h hq
    exact ⟨congrArg obs this.1, this.2.symm ▸ hk⟩
  | doneCallback t =>
    rcases doneCallback_shape s t with e | ⟨x', e, _, _, _, hobs, _⟩
    · rw [e]; exact ⟨rfl, hk⟩
    · rw [e]; exact ⟨obs_upd hobs k, hk⟩
  | peerRequest j | call j _ | removeMid j | requeue j | peerFail j | peerUploadFailed j | peerQueueStart j =>
    -- whatever the op does it does to `j`: pushed through the conditionals, `.xs k` and `.nx` are those of `s` at
    -- every leaf
    have e : k ≠ j := hne hn
    rw [step]
    simp only [apply_ite (fun s' : TS => s'.xs k), apply_ite TS.nx, spawn_frame _ _ e, cancelSlots_frame, upd_other _ _ e,
      ite_self, true_and]
    exact hk
  | callResume j =>
    have e : k ≠ j := hne hn
    rw [step]
    split
    · split
      · exact ⟨congrArg obs (upd_other _ _ e), hk⟩
      · exact ⟨rfl, hk⟩
    · exact ⟨rfl, hk⟩
  | peerQueueEnd j =>
    -- a handler that found the transfer before the call returned and is resumed now: the transfer is quiet, i.e. it left
    -- the list (not touched) or is ABORTED / PAUSED / a FAILED download (nothing the handler re-queues)
    rw [step]
    split
    · split
      · rename_i hc
        refine ⟨congrArg obs (upd_other _ _ fun e => ?_), hk⟩
        subst e
        rcases h.quietSt k hq with h1 | h1 | h1 | h1
        · rw [hc.1] at h1; cases h1
        · rcases hc.2.2.2 with h2 | h2 <;> rw [h1] at h2 <;> cases h2
        · rcases hc.2.2.2 with h2 | h2 <;> rw [h1] at h2 <;> cases h2
        · rw [hc.2.2.1] at h1; cases h1.2.2
      · exact ⟨obs_upd (by rfl) k, hk⟩
    · exact ⟨rfl, hk⟩

theorem quiet_foldl {s : TS} (h : Inv s) {k : Nat} (hk : k < s.nx) (hq : (s.xs k).quiet = true) (ops' : List Op)
    (hn : ∀ op ∈ ops', op.addresses k = false) :
    obs ((ops'.foldl step s).xs k) = obs (s.xs k) ∧
      ∀ t, ((ops'.foldl step s).tasks t).live = true → ((ops'.foldl step s).tasks t).xfer = k →
        Inert ((ops'.foldl step s).tasks t) := by
  have := List.foldlRecOn ops' step (motive := fun s' => Inv s' ∧ k < s'.nx ∧ obs (s'.xs k) = obs (s.xs k))
    ⟨h, hk, rfl⟩ fun s' ⟨h', hk', ho⟩ op hop =>
      have h1 := obs_step_of_quiet h' hk' ((obs_quiet ho).trans hq) op (hn op hop)
      ⟨inv_step h' op, h1.2, h1.1.trans ho⟩
  exact ⟨this.2.2, this.1.quietInert k ((obs_quiet this.2.2).trans hq)⟩

end AioslskVerif.Tasks
