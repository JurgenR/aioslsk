import AioslskVerif.Model.Shares
/-!
The invariant of the index: every item belongs to the innermost shared directory that holds its folder,
and the term map holds exactly the indexed items. The updates that replace the items of one shared directory
have one shape, `inv_replace`.
-/
set_option linter.unusedSectionVars false
namespace AioslskVerif.Shares

section
variable {C : Type} [DecidableEq C]

theorem mem_dedup {α : Type} [DecidableEq α] (x : α) (l : List α) : x ∈ dedup l ↔ x ∈ l := by
  induction l with
  | nil => exact Iff.rfl
  | cons y l ih =>
    rw [dedup]
    split
    · rename_i hy
      rw [ih, List.mem_cons]
      exact ⟨Or.inr, fun h => h.elim (· ▸ hy) id⟩
    · rw [List.mem_cons, List.mem_cons, ih]

theorem nodup_dedup {α : Type} [DecidableEq α] (l : List α) : (dedup l).Nodup := by
  induction l with
  | nil => exact List.nodup_nil
  | cons y l ih =>
    rw [dedup]
    split
    · exact ih
    · exact List.nodup_cons.2 ⟨by rwa [mem_dedup], ih⟩

theorem mem_setUnion {α : Type} [DecidableEq α] (a b : List α) (x : α) : x ∈ setUnion a b ↔ x ∈ a ∨ x ∈ b := by
  simp only [setUnion, List.mem_append, List.mem_filter, mem_dedup, decide_eq_true_eq]
  by_cases hx : x ∈ a <;> simp [hx]

theorem nodup_setUnion {α : Type} [DecidableEq α] (a b : List α) (ha : a.Nodup) : (setUnion a b).Nodup := by
  simp only [setUnion]
  rw [List.nodup_append]
  refine ⟨ha, (List.filter_sublist).nodup (nodup_dedup b), ?_⟩
  intro x hx y hy hxy
  subst hxy
  simp only [List.mem_filter, decide_eq_true_eq] at hy
  exact hy.2 hx

theorem longest_none (l : List (List C)) (h : longest l = none) : l = [] := by
  cases l with
  | nil => rfl
  | cons p ps =>
    simp only [longest] at h
    split at h
    · simp at h
    · split at h <;> simp at h

theorem longest_some (l : List (List C)) (b : List C) (h : longest l = some b) :
    b ∈ l ∧ ∀ p ∈ l, p.length ≤ b.length := by
  induction l generalizing b with
  | nil => cases h
  | cons p ps ih =>
    cases hl : longest ps with
    | none =>
      simp only [longest, hl] at h
      cases h
      simp [longest_none ps hl]
    | some b' =>
      simp only [longest, hl] at h
      obtain ⟨hmem, hle⟩ := ih b' hl
      split at h
      next hgt => -- `p` is longer than the longest of `ps`
        cases h
        exact ⟨List.mem_cons_self, fun q hq =>
          (List.mem_cons.1 hq).elim (· ▸ Nat.le_refl _) (fun hq => Nat.le_trans (hle q hq) (Nat.le_of_lt hgt))⟩
      next hgt =>
        cases h
        exact ⟨List.mem_cons_of_mem _ hmem, fun q hq =>
          (List.mem_cons.1 hq).elim (· ▸ Nat.le_of_not_gt hgt) (hle q)⟩

theorem innermostParent_some (paths : List (List C)) (d par : List C) (h : innermostParent paths d = some par) :
    par ∈ paths ∧ par ≠ d ∧ par <+: d ∧ ∀ p ∈ paths, p ≠ d → p <+: d → p <+: par := by
  obtain ⟨hmem, hle⟩ := longest_some _ _ h
  simp only [List.mem_filter, Bool.and_eq_true, decide_eq_true_eq, List.isPrefixOf_iff_prefix] at hmem hle
  refine ⟨hmem.1, hmem.2.1, hmem.2.2, ?_⟩
  intro p hp hne hpre
  exact List.prefix_of_prefix_length_le hpre hmem.2.2 (hle p ⟨hp, hne, hpre⟩)

theorem innermostParent_none (paths : List (List C)) (d : List C) (h : innermostParent paths d = none) :
    ∀ p ∈ paths, p ≠ d → ¬ p <+: d := by
  have := longest_none _ h
  intro p hp hne hpre
  have hm : p ∈ paths.filter (fun p => decide (p ≠ d) && p.isPrefixOf d) := by
    simp only [List.mem_filter, Bool.and_eq_true, decide_eq_true_eq, List.isPrefixOf_iff_prefix]
    exact ⟨hp, hne, hpre⟩
  rw [this] at hm
  simp at hm

theorem prefix_antisymm {a b : List C} (h1 : a <+: b) (h2 : b <+: a) : a = b :=
  h1.eq_of_length (Nat.le_antisymm h1.length_le h2.length_le)

theorem prefix_total {a b l : List C} (ha : a <+: l) (hb : b <+: l) : a <+: b ∨ b <+: a := by
  rcases Nat.le_total a.length b.length with h | h
  · exact Or.inl (List.prefix_of_prefix_length_le ha hb h)
  · exact Or.inr (List.prefix_of_prefix_length_le hb ha h)

theorem rebase_dir (target : List C) (it : Item C) (h : target <+: it.dir) : (rebase target it).dir = it.dir := by
  simp only [rebase, Item.dir]
  exact List.prefix_iff_eq_append.1 h

@[simp] theorem rebase_sd (target : List C) (it : Item C) : (rebase target it).sd = target := rfl

theorem sd_prefix_dir (it : Item C) : it.sd <+: it.dir := List.prefix_append _ _

structure Inv (s : St C) : Prop where
  paths_nodup : s.paths.Nodup
  owner : ∀ it ∈ s.items, it.sd ∈ s.paths
  innermost : ∀ it ∈ s.items, ∀ p ∈ s.paths, p <+: it.dir → p <+: it.sd
  items_nodup : s.items.Nodup
  tm_nodup : s.tm.Nodup
  tm_sync : ∀ it, it ∈ s.tm ↔ it ∈ s.items

theorem inv_init : Inv ({} : St C) :=
  ⟨by simp, by simp, by simp, by simp, by simp, by simp⟩

theorem tmCleanup_tmBuild (tm old items : List (Item C)) (d : List C) (hn : tm.Nodup) (hs : ∀ it, it ∈ tm ↔ it ∈ old)
    (hnew : ∀ it ∈ items, it ∈ old ∨ it.sd = d) :
    (tmCleanup (tmBuild tm items d) items).Nodup ∧
      ∀ it, it ∈ tmCleanup (tmBuild tm items d) items ↔ it ∈ items := by
  constructor
  · exact (List.filter_sublist).nodup (nodup_setUnion _ _ hn)
  · intro it
    simp only [tmCleanup, tmBuild, List.mem_filter, mem_setUnion, decide_eq_true_eq]
    constructor
    · exact fun h => h.2
    · intro h
      refine ⟨?_, h⟩
      rcases hnew it h with h1 | h1
      · exact Or.inl ((hs it).2 h1)
      · exact Or.inr ⟨h, h1⟩

/-- The shape of an update inside one shared directory: some items are kept, the others are replaced by items of one
shared directory `d` (re-based ones, or what a scan found), then `_build_term_map(d)` and
`_cleanup_term_map()`. The invariant holds afterwards if the kept items still sit in their innermost
directory among the new paths and `d` is the innermost one for each new item. -/
theorem inv_replace (s : St C) (h : Inv s) (paths : List (List C)) (keep : Item C → Bool) (new : List (Item C))
    (d : List C) (hP : paths.Nodup) (hd : d ∈ paths)
    (hkeep : ∀ it ∈ s.items, keep it = true → it.sd ∈ paths ∧ ∀ q ∈ paths, q <+: it.dir → q <+: it.sd)
    (hnew : ∀ it ∈ new, it.sd = d ∧ ∀ q ∈ paths, q <+: it.dir → q <+: d) :
    Inv { paths := paths, items := setUnion (s.items.filter keep) new,
          tm := tmCleanup (tmBuild s.tm (setUnion (s.items.filter keep) new) d) (setUnion (s.items.filter keep) new) } := by
  have hmem : ∀ it ∈ setUnion (s.items.filter keep) new, (it ∈ s.items ∧ keep it = true) ∨ it ∈ new :=
    fun it hit => ((mem_setUnion _ _ it).1 hit).imp_left List.mem_filter.1
  have htm := tmCleanup_tmBuild s.tm s.items (setUnion (s.items.filter keep) new) d h.tm_nodup h.tm_sync
    (fun it hit => (hmem it hit).imp (·.1) (hnew it · |>.1))
  refine ⟨hP, fun it hit => ?_, fun it hit q hq hpre => ?_,
    nodup_setUnion _ _ (List.filter_sublist.nodup h.items_nodup), htm.1, htm.2⟩
  · rcases hmem it hit with ⟨h1, h2⟩ | h1
    · exact (hkeep it h1 h2).1
    · exact (hnew it h1).1 ▸ hd
  · rcases hmem it hit with ⟨h1, h2⟩ | h1
    · exact (hkeep it h1 h2).2 q hq hpre
    · exact (hnew it h1).1 ▸ (hnew it h1).2 q hq hpre

theorem inv_add (s : St C) (p : List C) (h : Inv s) : Inv (add s p).1 := by
  unfold add
  split
  · exact h
  rename_i hp
  have hP : (s.paths ++ [p]).Nodup :=
    List.nodup_append.2 ⟨h.paths_nodup, by simp, fun a ha b hb hab => hp (List.mem_singleton.1 hb ▸ hab ▸ ha)⟩
  -- an item whose directory does not hold the new path (if the new path holds the item at all) stays
  -- in its innermost directory
  have hold : ∀ it ∈ s.items, (p <+: it.dir → ¬ it.sd <+: p) →
      it.sd ∈ s.paths ++ [p] ∧ ∀ q ∈ s.paths ++ [p], q <+: it.dir → q <+: it.sd := by
    intro it hit hnp
    refine ⟨List.mem_append_left _ (h.owner it hit), fun q hq hpre => ?_⟩
    rcases List.mem_append.1 hq with hq | hq
    · exact h.innermost it hit q hq hpre
    · cases List.mem_singleton.1 hq
      exact (prefix_total hpre (sd_prefix_dir it)).resolve_right (hnp hpre)
  have hne : ∀ it ∈ s.items, it.sd ≠ p := fun it hit e => hp (e ▸ h.owner it hit)
  split
  · rename_i hnone
    have := fun it hit => hold it hit fun _ => innermostParent_none _ _ hnone _ (h.owner it hit) (hne it hit)
    exact ⟨hP, fun it hit => (this it hit).1, fun it hit => (this it hit).2, h.items_nodup, h.tm_nodup, h.tm_sync⟩
  · rename_i par hsome
    obtain ⟨hpar, hparne, hparpre, hparmax⟩ := innermostParent_some _ _ _ hsome
    refine inv_replace s h _ (fun it => !(decide (it.sd = par) && p.isPrefixOf it.dir)) _ p hP (by simp) ?_ ?_
    · intro it hit hk
      refine hold it hit fun hpd hps => ?_
      -- `it.sd` lies between `par` and `p`, and `par` lies under `it.sd`, the innermost for `it`: `it.sd = par`
      have h1 : it.sd <+: par := hparmax _ (h.owner it hit) (hne it hit) hps
      have h2 : par <+: it.sd := h.innermost it hit par hpar (hparpre.trans hpd)
      simp [prefix_antisymm h1 h2, List.isPrefixOf_iff_prefix.2 hpd] at hk
    · intro it hit
      obtain ⟨it0, h0, rfl⟩ := List.mem_map.1 hit
      simp only [List.mem_filter, Bool.and_eq_true, decide_eq_true_eq, List.isPrefixOf_iff_prefix] at h0
      refine ⟨rfl, fun q hq hpre => ?_⟩
      rw [rebase_dir p it0 h0.2.2] at hpre
      rcases List.mem_append.1 hq with hq | hq
      · exact (h0.2.1 ▸ h.innermost it0 h0.1 q hq hpre).trans hparpre
      · exact List.mem_singleton.1 hq ▸ List.prefix_refl _

theorem inv_remove (s : St C) (p : List C) (h : Inv s) : Inv (remove s p).1 := by
  unfold remove
  split
  · exact h
  rename_i hp
  have hpaths : ∀ q, q ∈ s.paths.erase p ↔ q ≠ p ∧ q ∈ s.paths := fun q => h.paths_nodup.mem_erase_iff
  have hold : ∀ it ∈ s.items, it.sd ≠ p → it.sd ∈ s.paths.erase p ∧ ∀ q ∈ s.paths.erase p, q <+: it.dir → q <+: it.sd :=
    fun it hit hne => ⟨(hpaths _).2 ⟨hne, h.owner it hit⟩, fun q hq hpre => h.innermost it hit q ((hpaths q).1 hq).2 hpre⟩
  dsimp only
  split
  · refine ⟨h.paths_nodup.erase p, fun it hit => ?_, fun it hit => ?_, List.filter_sublist.nodup h.items_nodup,
      List.filter_sublist.nodup h.tm_nodup, fun it => ?_⟩
    · exact (hold it (List.mem_filter.1 hit).1 (by simpa using (List.mem_filter.1 hit).2)).1
    · exact (hold it (List.mem_filter.1 hit).1 (by simpa using (List.mem_filter.1 hit).2)).2
    · simp only [tmCleanup, List.mem_filter, decide_eq_true_eq]
      exact ⟨fun h1 => h1.2, fun h1 => ⟨(h.tm_sync it).2 h1.1, h1⟩⟩
  · rename_i par hsome
    obtain ⟨hpar, hparne, hparpre, hparmax⟩ := innermostParent_some _ _ _ hsome
    refine inv_replace s h _ (fun it => decide (it.sd ≠ p)) _ par (h.paths_nodup.erase p) hpar
      (fun it hit hk => hold it hit (by simpa using hk)) ?_
    intro it hit
    obtain ⟨it0, h0, rfl⟩ := List.mem_map.1 hit
    simp only [List.mem_filter, decide_eq_true_eq] at h0
    refine ⟨rfl, fun q hq hpre => ?_⟩
    -- what lies over a file of `p` other than `p` itself lies over `p`, so inside `par`
    rw [rebase_dir par it0 (hparpre.trans (h0.2 ▸ sd_prefix_dir it0))] at hpre
    exact hparmax q hq ((hpaths q).1 hq).1 (h0.2 ▸ h.innermost it0 h0.1 q ((hpaths q).1 hq).2 hpre)

theorem add_paths_mono (s : St C) (p q : List C) (h : q ∈ s.paths) : q ∈ (add s p).1.paths := by
  unfold add
  split
  · exact h
  · split <;> exact List.mem_append_left _ h

theorem mem_add_paths (s : St C) (p : List C) : p ∈ (add s p).1.paths := by
  unfold add
  split
  · assumption
  · split <;> simp

theorem remove_paths_mem (s : St C) (p q : List C) (hq : q ∈ s.paths) (hne : q ≠ p) : q ∈ (remove s p).1.paths := by
  unfold remove
  split
  · exact hq
  · dsimp only
    split <;> exact (List.mem_erase_of_ne hne).2 hq

theorem mem_scanned (paths : List (List C)) (p : List C) (disk : List (File C)) (it : Item C) :
    it ∈ scanned paths p disk ↔
      ∃ f ∈ disk, p <+: f.dir ∧ (∀ c ∈ paths, c ≠ p → p <+: c → ¬ c <+: f.dir) ∧
        it = { sd := p, sub := f.dir.drop p.length, name := f.name } := by
  simp only [scanned, children, mem_dedup, List.mem_map, List.mem_filter, Bool.and_eq_true, Bool.not_eq_true',
    List.isPrefixOf_iff_prefix, List.any_eq_false, decide_eq_true_eq, and_imp]
  exact ⟨fun ⟨f, ⟨hf, h1, h2⟩, e⟩ => ⟨f, hf, h1, h2, e.symm⟩, fun ⟨f, hf, h1, h2, e⟩ => ⟨f, ⟨hf, h1, h2⟩, e.symm⟩⟩

theorem mem_scanDir_items (s : St C) (p : List C) (disk : List (File C)) (it : Item C) :
    it ∈ (scanDir s p disk).items ↔ (it ∈ s.items ∧ it.sd ≠ p) ∨ it ∈ scanned s.paths p disk := by
  simp [scanDir, mem_setUnion, List.mem_filter]

theorem inv_scanDir (s : St C) (p : List C) (disk : List (File C)) (h : Inv s) (hp : p ∈ s.paths) :
    Inv (scanDir s p disk) := by
  refine inv_replace s h s.paths (fun it => decide (it.sd ≠ p)) (scanned s.paths p disk) p h.paths_nodup hp
    (fun it hit _ => ⟨h.owner it hit, h.innermost it hit⟩) fun it hit => ?_
  obtain ⟨f, _, h1, h2, rfl⟩ := (mem_scanned _ _ _ _).1 hit
  refine ⟨rfl, fun q hq hpre => ?_⟩
  rw [show Item.dir { sd := p, sub := f.dir.drop p.length, name := f.name } = f.dir from
    List.prefix_iff_eq_append.1 h1] at hpre
  -- a shared directory over the file is over `p`, or a child of `p`: those are skipped by the scan
  rcases prefix_total hpre h1 with h3 | h3
  · exact h3
  · by_cases hqp : q = p
    · exact hqp ▸ List.prefix_refl _
    · exact absurd hpre (h2 q hq hqp h3)

theorem inv_paths_scanAll (disk : List (File C)) (l : List (List C)) (s : St C) (h : Inv s) (hl : ∀ p ∈ l, p ∈ s.paths) :
    Inv (l.foldl (fun s p => scanDir s p disk) s) ∧ (l.foldl (fun s p => scanDir s p disk) s).paths = s.paths :=
  -- a scan leaves the paths as they are (by `rfl`)
  List.foldlRecOn (motive := fun t => Inv t ∧ t.paths = s.paths) l _ ⟨h, rfl⟩ fun t ht p hp =>
    ⟨inv_scanDir t p disk ht.1 (ht.2 ▸ hl p hp), ht.2⟩

theorem inv_step (s : St C) (op : Op C) (h : Inv s) : Inv (step s op).1 := by
  cases op with
  | add p => exact inv_add s p h
  | remove p => exact inv_remove s p h
  | update p => simp only [step]; split <;> exact h
  | scan p disk =>
    simp only [step, scan]
    split
    · exact h
    · rename_i hp
      exact inv_scanDir s p disk h (by simpa using hp)
  | scanAll disk => exact (inv_paths_scanAll disk s.paths s h (fun _ hp => hp)).1

theorem inv_run (ops : List (Op C)) : Inv (run ops) :=
  List.foldlRecOn (motive := Inv) _ _ inv_init fun s h op _ => inv_step s op h

theorem sd_eq_of_dir_eq (s : St C) (h : Inv s) : ∀ a ∈ s.items, ∀ b ∈ s.items, a.dir = b.dir → a.sd = b.sd := by
  intro a ha b hb hab
  have h1 : b.sd <+: a.sd := h.innermost a ha b.sd (h.owner b hb) (hab ▸ sd_prefix_dir b)
  have h2 : a.sd <+: b.sd := h.innermost b hb a.sd (h.owner a ha) (hab ▸ sd_prefix_dir a)
  exact prefix_antisymm h2 h1

theorem abs_inj (s : St C) (h : Inv s) (a b : Item C) (ha : a ∈ s.items) (hb : b ∈ s.items) (hab : a.abs = b.abs) :
    a = b := by
  have hdir : a.dir = b.dir ∧ [a.name] = [b.name] :=
    List.append_inj' (show a.dir ++ [a.name] = b.dir ++ [b.name] from hab) rfl
  have hsd : a.sd = b.sd := sd_eq_of_dir_eq s h a ha b hb hdir.1
  have hsub : a.sub = b.sub := by
    have : a.sd ++ a.sub = b.sd ++ b.sub := hdir.1
    rw [hsd] at this
    exact List.append_cancel_left this
  have hname : a.name = b.name := (List.cons.inj hdir.2).1
  cases a
  cases b
  simp only [Item.mk.injEq]
  exact ⟨hsd, hsub, hname⟩

theorem sum_map_ite_add (ps : List (List C)) (hn : ps.Nodup) (x : List C) (w : Nat) (f : List C → Nat) :
    (ps.map (fun d => (if x = d then w else 0) + f d)).sum = (if x ∈ ps then w else 0) + (ps.map f).sum := by
  induction ps with
  | nil => rfl
  | cons d ps ih =>
    rw [List.nodup_cons] at hn
    simp only [List.map_cons, List.sum_cons, ih hn.2, List.mem_cons]
    by_cases h1 : x = d
    · simp [h1, hn.1]; omega
    · simp [h1]; omega

theorem sum_map_zero {α : Type} (ps : List α) : (ps.map (fun _ => 0)).sum = 0 := by
  induction ps <;> simp_all

theorem sum_dir_lengths (ps : List (List C)) (hn : ps.Nodup) (l : List (Item C)) (hl : ∀ it ∈ l, it.sd ∈ ps) :
    (ps.map (fun d => (l.filter (fun it => decide (it.sd = d))).length)).sum = l.length := by
  induction l with
  | nil => exact sum_map_zero ps
  | cons it l ih =>
    have h1 : ∀ d, ((it :: l).filter (fun it => decide (it.sd = d))).length
        = (if it.sd = d then 1 else 0) + (l.filter (fun it => decide (it.sd = d))).length := by
      intro d
      by_cases hd : it.sd = d
      · simp [hd]; omega
      · simp [hd]
    simp only [h1, sum_map_ite_add ps hn, hl it List.mem_cons_self, if_true,
      ih (fun x hx => hl x (List.mem_cons_of_mem _ hx)), List.length_cons]
    omega

theorem dedup_cons_length {α : Type} [DecidableEq α] (x : α) (l : List α) :
    (dedup (x :: l)).length = (if x ∈ l then 0 else 1) + (dedup l).length := by
  simp only [dedup]
  split
  · simp
  · simp; omega

theorem dedup_map_length_congr {α β γ : Type} [DecidableEq β] [DecidableEq γ] (l : List α) (f : α → β) (g : α → γ)
    (h : ∀ x ∈ l, ∀ y ∈ l, f x = f y ↔ g x = g y) :
    (dedup (l.map f)).length = (dedup (l.map g)).length := by
  induction l with
  | nil => rfl
  | cons x l ih =>
    have hiff : f x ∈ l.map f ↔ g x ∈ l.map g := by
      simp only [List.mem_map]
      exact exists_congr fun y => and_congr_right fun hy =>
        ⟨fun e => ((h x List.mem_cons_self y (List.mem_cons_of_mem _ hy)).1 e.symm).symm,
         fun e => ((h x List.mem_cons_self y (List.mem_cons_of_mem _ hy)).2 e.symm).symm⟩
    simp only [List.map_cons, dedup_cons_length, hiff,
      ih (fun a ha b hb => h a (List.mem_cons_of_mem _ ha) b (List.mem_cons_of_mem _ hb))]

theorem sum_dir_folders (ps : List (List C)) (hn : ps.Nodup) (l : List (Item C)) (hl : ∀ it ∈ l, it.sd ∈ ps)
    (hsep : ∀ a ∈ l, ∀ b ∈ l, a.dir = b.dir → a.sd = b.sd) :
    (ps.map (fun d => (dedup ((l.filter (fun it => decide (it.sd = d))).map Item.dir)).length)).sum
      = (dedup (l.map Item.dir)).length := by
  induction l with
  | nil => exact sum_map_zero ps
  | cons it l ih =>
    -- a folder seen before was seen in the same shared directory
    have hiff : it.dir ∈ (l.filter (fun x => decide (x.sd = it.sd))).map Item.dir ↔ it.dir ∈ l.map Item.dir := by
      simp only [List.mem_map, List.mem_filter, decide_eq_true_eq]
      exact ⟨fun ⟨y, hy, e⟩ => ⟨y, hy.1, e⟩,
        fun ⟨y, hy, e⟩ => ⟨y, ⟨hy, hsep y (List.mem_cons_of_mem _ hy) it List.mem_cons_self e⟩, e⟩⟩
    have h1 : ∀ d, (dedup (((it :: l).filter (fun x => decide (x.sd = d))).map Item.dir)).length
        = (if it.sd = d then (if it.dir ∈ l.map Item.dir then 0 else 1) else 0)
          + (dedup ((l.filter (fun x => decide (x.sd = d))).map Item.dir)).length := by
      intro d
      by_cases hd : it.sd = d
      · subst hd
        simp only [List.filter_cons, decide_true, if_true, List.map_cons, dedup_cons_length, hiff]
      · simp [hd]
    simp only [h1, sum_map_ite_add ps hn, hl it List.mem_cons_self, if_true, List.map_cons, dedup_cons_length,
      ih (fun x hx => hl x (List.mem_cons_of_mem _ hx))
        (fun a ha b hb => hsep a (List.mem_cons_of_mem _ ha) b (List.mem_cons_of_mem _ hb))]
    -- (the two sides decide membership through different `BEq` instances)
    by_cases hx : it.dir ∈ l.map Item.dir <;> simp [hx]

theorem stats_eq (s : St C) (h : Inv s) :
    stats s = ((dedup (s.items.map Item.dir)).length, s.items.length) := by
  unfold stats dirItems
  rw [sum_dir_lengths s.paths h.paths_nodup s.items h.owner]
  congr 1
  rw [← sum_dir_folders s.paths h.paths_nodup s.items h.owner (sd_eq_of_dir_eq s h)]
  congr 1
  apply List.map_congr_left
  intro d _
  apply dedup_map_length_congr
  intro x hx y hy
  simp only [List.mem_filter, decide_eq_true_eq] at hx hy
  simp only [Item.dir, hx.2, hy.2]
  constructor
  · intro e; rw [e]
  · exact List.append_cancel_left

end
end AioslskVerif.Shares
