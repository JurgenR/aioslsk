import AioslskVerif.Proofs.Track
/-! C15, the owners of the reasons (`World`): how each step changes `reasons`, the fold of the requests made, one
reason at a time (`Comp`); the world invariant `WInv`; every world history is a history of the tracking manager. -/
namespace AioslskVerif.Track
open AioslskVerif.Generated.Track

@[simp] theorem Flags.add_req (a b : Flags) : (a.add b).req = (a.req || b.req) := rfl
@[simp] theorem Flags.add_tr (a b : Flags) : (a.add b).tr = (a.tr || b.tr) := rfl
@[simp] theorem Flags.add_fr (a b : Flags) : (a.add b).fr = (a.fr || b.fr) := rfl
@[simp] theorem Flags.remove_req (a b : Flags) : (a.remove b).req = (a.req && !b.req) := rfl
@[simp] theorem Flags.remove_tr (a b : Flags) : (a.remove b).tr = (a.tr && !b.tr) := rfl
@[simp] theorem Flags.remove_fr (a b : Flags) : (a.remove b).fr = (a.fr && !b.fr) := rfl
@[simp] theorem empty_tr : Flags.empty.tr = false := rfl
@[simp] theorem empty_fr : Flags.empty.fr = false := rfl
@[simp] theorem empty_req : Flags.empty.req = false := rfl

theorem Flags.add_idem (a f : Flags) : (a.add f).add f = a.add f := by
  cases a; cases f; simp [Flags.add]

theorem Flags.remove_idem (a f : Flags) : (a.remove f).remove f = a.remove f := by
  cases a; cases f; simp [Flags.remove]

theorem Flags.ne_empty_iff (f : Flags) : f ≠ Flags.empty ↔ (f.req = true ∨ f.tr = true ∨ f.fr = true) := by
  cases f with
  | mk a b c => cases a <;> cases b <;> cases c <;> simp [Flags.empty]

theorem mem_dedup {u : Nat} {l : List Nat} : u ∈ dedup l ↔ u ∈ l := by
  induction l with
  | nil => rfl
  | cons a l ih =>
    unfold dedup
    split
    · next ha => rw [ih, List.mem_cons]; exact ⟨Or.inr, fun h => h.elim (· ▸ ha) id⟩
    · rw [List.mem_cons, List.mem_cons, ih]

theorem reasons_upd (s : State) (u : Nat) (U : User) (v : Nat) :
    reasons (s.upd u U) v = if v = u then specFlags U.issued else reasons s v := by
  show specFlags (if v = u then U else s.users v).issued = _
  split <;> rfl

theorem issued_track (U : User) (f : Flags) : (U.track f).issued = U.issued ++ [Req.call true f] := by
  unfold User.track; cases U.entry <;> rfl

theorem issued_untrack (U : User) (f : Flags) : (U.untrack f).issued = U.issued ++ [Req.call false f] := by
  unfold User.untrack; cases U.entry <;> rfl

theorem reasons_track (s : State) (v : Nat) (f : Flags) (u : Nat) :
    reasons (step s (.track v f)) u = if u = v then (reasons s u).add f else reasons s u := by
  show reasons (s.upd v _) u = _
  rw [reasons_upd, issued_track, specFlags_append]
  split
  · next h => rw [h]; rfl
  · rfl

theorem reasons_untrack (s : State) (v : Nat) (f : Flags) (u : Nat) :
    reasons (step s (.untrack v f)) u = if u = v then (reasons s u).remove f else reasons s u := by
  show reasons (s.upd v _) u = _
  rw [reasons_upd, issued_untrack, specFlags_append]
  split
  · next h => rw [h]; rfl
  · rfl

theorem reasons_closed (s : State) (u : Nat) : reasons (step s .serverClosed) u = Flags.empty := rfl

theorem reasons_advance (s : State) (dt : Nat) (u : Nat) : reasons (step s (.advance dt)) u = reasons s u := rfl

theorem reasons_upd_same {s : State} {u : Nat} {U : User} (h : specFlags U.issued = specFlags (s.users u).issued)
    (v : Nat) : reasons (s.upd u U) v = reasons s v := by
  rw [reasons_upd]
  split
  · next hv => rw [h, hv]; rfl
  · rfl

/-- the step may change the reason `π`: a call that names it, or the server closing -/
def Op.names (π : Flags → Bool) : Op → Bool
  | .track _ f => π f
  | .untrack _ f => π f
  | .serverClosed => true
  | _ => false

/-- the worker, the done-callbacks, the retry timers and the clock (steps that would not even name the reason
"any") leave the reasons alone: a retry request names none -/
theorem reasons_step_task (s : State) {op : Op} (hop : op.names (fun _ => true) = false) (u : Nat) :
    reasons (step s op) u = reasons s u := by
  cases op with
  | track | untrack | serverClosed => cases hop
  | workerStep v env => exact reasons_upd_same (congrArg _ (worker_ghost ..).1) u
  | reap v g => exact reasons_upd_same (congrArg _ (reap_ghost ..).1) u
  | retryFires v =>
    refine reasons_upd_same ?_ u
    exact retryFires_cases (motive := fun U' => specFlags U'.issued = specFlags (s.users v).issued) _ _ rfl
      fun _ _ _ _ _ => (specFlags_append ..).trans (Flags.add_empty_right _)
  | advance dt => rfl

/-- `π` reads one reason off a set of reasons: a request that does not name the reason leaves it alone (`Comp.kept`) -/
structure Comp (π : Flags → Bool) : Prop where
  add : ∀ a f, π (a.add f) = (π a || π f)
  remove : ∀ a f, π (a.remove f) = (π a && !π f)

theorem Comp.req : Comp (·.req) := ⟨fun _ _ => rfl, fun _ _ => rfl⟩
theorem Comp.tr : Comp (·.tr) := ⟨fun _ _ => rfl, fun _ _ => rfl⟩
theorem Comp.fr : Comp (·.fr) := ⟨fun _ _ => rfl, fun _ _ => rfl⟩

theorem Comp.kept {π : Flags → Bool} (hπ : Comp π) (s : State) {op : Op} (hop : op.names π = false) (u : Nat) :
    π (reasons (step s op) u) = π (reasons s u) := by
  cases op with
  | track v f =>
    have hf : π f = false := hop
    rw [reasons_track]
    split
    · rw [hπ.add, hf, Bool.or_false]
    · rfl
  | untrack v f =>
    have hf : π f = false := hop
    rw [reasons_untrack]
    split
    · rw [hπ.remove, hf]; exact Bool.and_true _
    · rfl
  | serverClosed => cases hop
  | workerStep | reap | retryFires | advance => exact congrArg π (reasons_step_task s rfl u)

theorem Comp.kept_if {π : Flags → Bool} (hπ : Comp π) (s : State) (c : Bool) {op : Op} (hop : op.names π = false)
    (u : Nat) : π (reasons (if c = true then step s op else s) u) = π (reasons s u) := by
  split
  · exact hπ.kept s hop u
  · rfl

theorem Comp.kept_run {π : Flags → Bool} (hπ : Comp π) (s : State) (ops : List Op) (hops : ∀ op ∈ ops, op.names π = false)
    (u : Nat) : π (reasons (run s ops) u) = π (reasons s u) :=
  List.foldlRecOn (motive := fun s' => π (reasons s' u) = π (reasons s u)) ops step rfl
    fun s' hs op hop => (hπ.kept s' (hops op hop) u).trans hs

theorem reasons_run_map (mk : Nat → Op) (g : Flags → Flags) (hg : ∀ a, g (g a) = g a)
    (hmk : ∀ s v u, reasons (step s (mk v)) u = if u = v then g (reasons s u) else reasons s u)
    (us : List Nat) (u : Nat) (s : State) :
    reasons (run s (us.map mk)) u = if u ∈ us then g (reasons s u) else reasons s u := by
  induction us generalizing s with
  | nil => rfl
  | cons v us ih =>
    rw [List.map_cons, run_cons, ih, hmk]
    by_cases h1 : u = v <;> by_cases h2 : u ∈ us <;> simp [h1, h2, hg]

theorem reasons_run_tracks (us : List Nat) (f : Flags) :
    ∀ u s, reasons (run s (us.map (Op.track · f))) u = if u ∈ us then (reasons s u).add f else reasons s u :=
  reasons_run_map _ (·.add f) (Flags.add_idem · f) (reasons_track · · f) us

theorem reasons_run_untracks (us : List Nat) (f : Flags) :
    ∀ u s, reasons (run s (us.map (Op.untrack · f))) u = if u ∈ us then (reasons s u).remove f else reasons s u :=
  reasons_run_map _ (·.remove f) (Flags.remove_idem · f) (reasons_untrack · · f) us

namespace World

theorem mem_unfinishedUsers (w : World) (u : Nat) : u ∈ w.unfinishedUsers ↔ w.HasUnfinished u := by
  unfold unfinishedUsers HasUnfinished
  rw [mem_dedup]
  simp only [List.mem_map, List.mem_filter]
  constructor
  · rintro ⟨x, ⟨hx, hf⟩, rfl⟩; exact ⟨x, hx, rfl, by simpa using hf⟩
  · rintro ⟨x, hx, rfl, hf⟩; exact ⟨x, ⟨hx, by simp [hf]⟩, rfl⟩

theorem mem_finishedOnlyUsers (w : World) (u : Nat) :
    u ∈ w.finishedOnlyUsers ↔ w.HasFinished u ∧ ¬ w.HasUnfinished u := by
  unfold finishedOnlyUsers HasFinished
  rw [List.mem_filter, mem_dedup]
  simp only [List.mem_map, List.mem_filter, decide_eq_true_eq]
  constructor
  · rintro ⟨⟨x, ⟨hx, hf⟩, rfl⟩, hn⟩; exact ⟨⟨x, hx, rfl, hf⟩, hn⟩
  · rintro ⟨⟨x, hx, rfl, hf⟩, hn⟩; exact ⟨⟨x, ⟨hx, hf⟩, rfl⟩, hn⟩

theorem reasons_cycle (w : World) (u : Nat) :
    reasons (run w.t w.cycleOps) u =
      if w.HasUnfinished u then (reasons w.t u).add fTr
      else if w.HasFinished u then (reasons w.t u).remove fTr
      else reasons w.t u := by
  unfold cycleOps
  rw [run_append, reasons_run_untracks, reasons_run_tracks]
  simp only [mem_unfinishedUsers, mem_finishedOnlyUsers]
  by_cases h1 : w.HasUnfinished u <;> by_cases h2 : w.HasFinished u <;> simp [h1, h2]

theorem reasons_login (w : World) (u : Nat) (hu : u ≠ me) :
    reasons (run w.t w.loginOps) u = if u ∈ w.friends then (reasons w.t u).add fFr else reasons w.t u := by
  unfold loginOps
  rw [run_cons, reasons_run_tracks, reasons_track, if_neg hu]
  simp only [mem_dedup]

theorem cycleOps_names (w : World) {π : Flags → Bool} (hπ : π fTr = false) : ∀ op ∈ w.cycleOps, op.names π = false := by
  intro op hop
  rcases List.mem_append.mp hop with h | h <;> obtain ⟨v, _, rfl⟩ := List.mem_map.mp h <;> exact hπ

theorem loginOps_names (w : World) {π : Flags → Bool} (hπ : π fFr = false) : ∀ op ∈ w.loginOps, op.names π = false := by
  intro op hop
  rcases List.mem_cons.mp hop with rfl | h
  · exact hπ
  · obtain ⟨v, _, rfl⟩ := List.mem_map.mp h; exact hπ

end World

theorem hasXfer_of_unfinished {w : World} {u : Nat} (h : w.HasUnfinished u) : w.HasXfer u := by
  obtain ⟨x, hx, hu, _⟩ := h; exact ⟨x, hx, hu⟩

theorem not_unfinished_of_no_xfer {w : World} {u : Nat} (h : ¬ w.HasXfer u) :
    decide (w.HasUnfinished u) = false :=
  decide_eq_false fun h1 => h (hasXfer_of_unfinished h1)

/-- the reasons the tracking manager has been given (`reasons`) against what their owners derive them from: the
transfer list, the session and the friends list -/
structure WInv (w : World) : Prop where
  /-- after a cycle (and until the transfers change or the server closes) TRANSFER = "has an unfinished transfer" —
  except for a user without any transfer whose last one a `remove()` in progress has just taken off the list -/
  trSync : w.cycleRan = true → ∀ u,
    (reasons w.t u).tr = decide (w.HasUnfinished u) ∨ (w.RemovalPending u ∧ ¬ w.HasXfer u)
  /-- a user without any transfer does not carry TRANSFER, unless a `remove()` in progress is about to ask -/
  trNone : ∀ u, ¬ w.HasXfer u → w.RemovalPending u ∨ (reasons w.t u).tr = false
  /-- without a session nobody carries FRIEND -/
  frOff : w.session = false → ∀ u, u ≠ me → (reasons w.t u).fr = false
  /-- in a session FRIEND = "is in the friends list" -/
  frOn : w.session = true → ∀ u, u ≠ me → (reasons w.t u).fr = decide (u ∈ w.friends)

namespace WInv

abbrev Tr (w : World) : Prop :=
  (w.cycleRan = true → ∀ u,
    (reasons w.t u).tr = decide (w.HasUnfinished u) ∨ (w.RemovalPending u ∧ ¬ w.HasXfer u)) ∧
  ∀ u, ¬ w.HasXfer u → w.RemovalPending u ∨ (reasons w.t u).tr = false

abbrev Fr (w : World) : Prop := ∀ u, u ≠ me → (reasons w.t u).fr = (w.session && decide (u ∈ w.friends))

theorem tr {w : World} (h : WInv w) : Tr w := ⟨h.trSync, h.trNone⟩

theorem fr {w : World} (h : WInv w) : Fr w := by
  intro u hu
  cases hs : w.session
  · exact h.frOff hs u hu
  · exact h.frOn hs u hu

theorem of {w : World} (a : Tr w) (b : Fr w) : WInv w :=
  ⟨a.1, a.2, fun hs u hu => by rw [b u hu, hs]; rfl, fun hs u hu => by rw [b u hu, hs]; rfl⟩

theorem Tr.congr {w w' : World} (h : Tr w) (hx : w'.xfers = w.xfers) (hr : w'.rm = w.rm)
    (hc : w'.cycleRan = true → w.cycleRan = true) (ht : ∀ u, (reasons w'.t u).tr = (reasons w.t u).tr) : Tr w' := by
  unfold Tr World.HasUnfinished World.HasXfer World.RemovalPending at *
  simp only [hx, hr, ht]
  exact ⟨fun hc' => h.1 (hc hc'), h.2⟩

theorem Tr.mono {w w' : World} (h : Tr w) (hc : w'.cycleRan = false) (ht : w'.t = w.t)
    (hx : ∀ v, w.HasXfer v → w'.HasXfer v) (hr : ∀ v, w.RemovalPending v → w'.RemovalPending v) : Tr w' :=
  ⟨fun hc' => (nomatch hc.symm.trans hc'), fun v hn => ht ▸ (h.2 v fun hx' => hn (hx v hx')).imp_left (hr v)⟩

theorem Fr.congr {w w' : World} (h : Fr w) (hs : w'.session = w.session) (hf : w'.friends = w.friends)
    (ht : ∀ u, (reasons w'.t u).fr = (reasons w.t u).fr) : Fr w' := by
  intro u hu
  rw [ht, hs, hf]
  exact h u hu

/-- a removal in progress ends (or gives up): fine when the user it was about to ask about, if any, has a transfer
or does not carry TRANSFER -/
theorem Tr.settle {w : World} (h : Tr w) (r : Removal)
    (hr : ∀ u, r.dropped = some u → ¬ w.HasXfer u → (reasons w.t u).tr = false) :
    Tr { w with rm := w.rm.erase r } := by
  have keep : ∀ v, r.dropped ≠ some v → w.RemovalPending v → ∃ r' ∈ w.rm.erase r, r'.dropped = some v :=
    fun v hv ⟨r', hr', hd⟩ => ⟨r', (List.mem_erase_of_ne fun (he : r' = r) => hv (he ▸ hd)).mpr hr', hd⟩
  refine ⟨fun hc v => ?_, fun v hn => ?_⟩
  · by_cases hv : r.dropped = some v
    · refine (h.1 hc v).elim Or.inl fun ⟨_, hx⟩ => Or.inl ?_
      exact (hr v hv hx).trans (not_unfinished_of_no_xfer hx).symm
    · exact (h.1 hc v).imp_right fun ⟨hp, hx⟩ => ⟨keep v hv hp, hx⟩
  · by_cases hv : r.dropped = some v
    · exact Or.inr (hr v hv hn)
    · exact (h.2 v hn).imp_left (keep v hv)

/-- at its end a removal withdraws TRANSFER from a user who has no transfer left (379-381) -/
theorem Tr.withdraw {w : World} (h : Tr w) (u : Nat) :
    Tr { w with t := if ∃ y ∈ w.xfers, y.user = u then w.t else step w.t (.untrack u fTr) } := by
  by_cases hx : ∃ y ∈ w.xfers, y.user = u
  · rw [if_pos hx]; exact h
  · rw [if_neg hx]
    have ht : ∀ v, (reasons (step w.t (.untrack u fTr)) v).tr = if v = u then false else (reasons w.t v).tr := by
      intro v
      rw [reasons_untrack]
      split <;> simp [fTr]
    refine ⟨fun hc v => ?_, fun v hn => ?_⟩
    · show (reasons (step w.t (.untrack u fTr)) v).tr = _ ∨ _
      rw [ht]
      split
      · next hv => exact Or.inl (not_unfinished_of_no_xfer (hv ▸ hx)).symm
      · exact h.1 hc v
    · show _ ∨ (reasons (step w.t (.untrack u fTr)) v).tr = false
      rw [ht]
      split
      · exact Or.inr rfl
      · exact h.2 v hn

/-- a removal takes its transfer off the list and is about to ask about its user (370) -/
theorem Tr.drop {w : World} (h : Tr w) (x : Xfer) (id : Nat) :
    Tr { w with xfers := w.xfers.erase x, cycleRan := false, rm := w.rm ++ [⟨id, some x.user⟩] } := by
  refine ⟨nofun, fun v hn => ?_⟩
  by_cases hv : v = x.user
  · exact Or.inl ⟨⟨id, some x.user⟩, List.mem_append_right _ (List.mem_singleton_self _), hv ▸ rfl⟩
  · have hold : ¬ w.HasXfer v := fun ⟨y, hy, hyu⟩ =>
      hn ⟨y, (List.mem_erase_of_ne fun (hyx : y = x) => hv (hyx ▸ hyu.symm)).mpr hy, hyu⟩
    exact (h.2 v hold).imp_left fun ⟨r', hr', hd⟩ => ⟨r', List.mem_append_left _ hr', hd⟩

end WInv

theorem WInv.init : WInv World.init := .of ⟨nofun, fun _ _ => Or.inr rfl⟩ fun _ _ => rfl

theorem WInv.close (w : World) : WInv w.close := .of ⟨nofun, fun _ _ => Or.inr rfl⟩ fun _ _ => rfl

theorem WInv.base {w : World} (h : WInv w) (op : Op) (hop : (WOp.base op).appOk = true) :
    WInv (wstep w (.base op)) := by
  have keep : ∀ op : Op, op.names (·.tr) = false → op.names (·.fr) = false → WInv { w with t := step w.t op } :=
    fun _ h1 h2 => .of (h.tr.congr rfl rfl id (Comp.tr.kept _ h1)) (h.fr.congr rfl rfl (Comp.fr.kept _ h2))
  cases op with
  | serverClosed => exact .close w
  | track v f | untrack v f =>
    -- the application names REQUESTED only
    cases of_decide_eq_true hop
    exact keep _ rfl rfl
  | workerStep | reap | retryFires | advance => exact keep _ rfl rfl

theorem tr_cycle_no_xfer (w : World) (u : Nat) (hn : ¬ w.HasXfer u) :
    (reasons (run w.t w.cycleOps) u).tr = (reasons w.t u).tr := by
  rw [World.reasons_cycle, if_neg fun h1 => hn (hasXfer_of_unfinished h1),
    if_neg fun ⟨x, hx, hu, _⟩ => hn ⟨x, hx, hu⟩]

theorem tr_cycle_xfer (w : World) (u : Nat) (hx : w.HasXfer u) :
    (reasons (run w.t w.cycleOps) u).tr = decide (w.HasUnfinished u) := by
  rw [World.reasons_cycle]
  by_cases h1 : w.HasUnfinished u
  · simp [h1, fTr]
  · have h2 : w.HasFinished u := by
      obtain ⟨x, hx, hu⟩ := hx
      cases hf : x.finished
      · exact (h1 ⟨x, hx, hu, hf⟩).elim
      · exact ⟨x, hx, hu, hf⟩
    simp [h1, h2, fTr]

theorem WInv.cycle {w : World} (h : WInv w) : WInv (wstep w .cycle) := by
  refine .of ⟨fun _ u => ?_, fun u hn => ?_⟩ (h.fr.congr rfl rfl (Comp.fr.kept_run _ _ (w.cycleOps_names rfl)))
  · show (reasons (run w.t w.cycleOps) u).tr = decide (w.HasUnfinished u) ∨ (w.RemovalPending u ∧ ¬ w.HasXfer u)
    by_cases hx : w.HasXfer u
    · exact Or.inl (tr_cycle_xfer w u hx)
    · rw [tr_cycle_no_xfer w u hx, not_unfinished_of_no_xfer hx]
      exact (h.trNone u hx).symm.imp_right fun hp => ⟨hp, hx⟩
  · show w.RemovalPending u ∨ (reasons (run w.t w.cycleOps) u).tr = false
    rw [tr_cycle_no_xfer w u hn]
    exact h.trNone u hn

theorem WInv.login {w : World} (h : WInv w) : WInv (wstep w .login) := by
  refine .of (h.tr.congr rfl rfl id (Comp.tr.kept_run _ _ (w.loginOps_names rfl))) fun u hu => ?_
  show (reasons (run w.t w.loginOps) u).fr = (true && decide (u ∈ w.friends))
  rw [w.reasons_login u hu]
  split
  · next hf => simp [hf, fFr]
  · next hf => simp [hf, h.fr u hu]

theorem WInv.friend {w : World} (h : WInv w) (u : Nat) (b : Bool) : WInv (wstep w (.friend u b)) := by
  cases b with
  | true =>
    rw [wstep]
    split
    · exact h
    · refine .of (h.tr.congr rfl rfl id (Comp.tr.kept_if _ _ rfl)) fun v hv => ?_
      show (reasons (if w.session = true then step w.t (.track u fFr) else w.t) v).fr
        = (w.session && decide (v ∈ w.friends ++ [u]))
      cases hs : w.session
      · simpa [hs] using h.fr v hv
      · rw [if_pos rfl, reasons_track]
        by_cases hvu : v = u <;> simp [hvu, h.fr v hv, hs, fFr]
  | false =>
    rw [wstep]
    split
    · refine .of (h.tr.congr rfl rfl id (Comp.tr.kept_if _ _ rfl)) fun v hv => ?_
      show (reasons (if w.session = true then step w.t (.untrack u fFr) else w.t) v).fr
        = (w.session && decide (v ∈ w.friends.filter (· ≠ u)))
      cases hs : w.session
      · simpa [hs] using h.fr v hv
      · rw [if_pos rfl, reasons_untrack]
        by_cases hvu : v = u <;> simp [hvu, h.fr v hv, hs, fFr]
    · exact h

theorem WInv.tadd {w : World} (h : WInv w) (u : Nat) : WInv (wstep w (.tadd u)) :=
  .of (h.tr.mono rfl rfl (fun _ ⟨x, hx, hu⟩ => ⟨x, List.mem_append_left _ hx, hu⟩) fun _ h => h)
    (h.fr.congr rfl rfl fun _ => rfl)

theorem hasXfer_setFinished (w : World) (id : Nat) (b : Bool) (v : Nat) :
    w.HasXfer v → (w.setFinished id b).HasXfer v := by
  rintro ⟨x, hx, hu⟩
  refine ⟨if x.id = id then { x with finished := b } else x, List.mem_map.mpr ⟨x, hx, rfl⟩, ?_⟩
  split <;> exact hu

theorem WInv.setFinished {w : World} (h : WInv w) (id : Nat) (b : Bool) : WInv (w.setFinished id b) :=
  .of (h.tr.mono rfl rfl (hasXfer_setFinished w id b) fun _ h => h) (h.fr.congr rfl rfl fun _ => rfl)

theorem WInv.trmStart {w : World} (h : WInv w) (id : Nat) : WInv (w.trmStart id) := by
  unfold World.trmStart
  split
  · exact h
  · exact .of (h.tr.mono rfl rfl (hasXfer_setFinished w id true) fun _ ⟨r, hr, hd⟩ => ⟨r, List.mem_append_left _ hr, hd⟩)
      (h.fr.congr rfl rfl fun _ => rfl)

theorem WInv.trmDrop {w : World} (h : WInv w) (id : Nat) : WInv (w.trmDrop id) := by
  unfold World.trmDrop
  split
  · exact h
  · next r hfind =>
    have hrd : r.dropped = none := by
      have := List.find?_some hfind
      exact (of_decide_eq_true this).2
    have ht := h.tr.settle r fun u hu => nomatch hrd.symm.trans hu
    split
    · exact .of ht (h.fr.congr rfl rfl fun _ => rfl)
    · next x _ => exact .of (ht.drop x id) (h.fr.congr rfl rfl fun _ => rfl)

theorem WInv.trmEnd {w : World} (h : WInv w) (id : Nat) : WInv (w.trmEnd id) := by
  unfold World.trmEnd
  split
  · exact h
  · next r _ =>
    split
    · exact h
    · next u hru =>
      refine .of ((h.tr.withdraw u).settle r fun v hv hx => ?_) (h.fr.congr rfl rfl fun v => ?_)
      · -- the removal asked about `u`, which has no transfer: TRANSFER has just been withdrawn
        cases hru.symm.trans hv
        have hx : ¬ ∃ y ∈ w.xfers, y.user = u := hx
        show (reasons (if ∃ y ∈ w.xfers, y.user = u then w.t else step w.t (.untrack u fTr)) u).tr = false
        rw [if_neg hx, reasons_untrack, if_pos rfl]
        simp [fTr]
      · show (reasons (if ∃ y ∈ w.xfers, y.user = u then w.t else step w.t (.untrack u fTr)) v).fr = _
        split
        · rfl
        · exact Comp.fr.kept _ rfl v

theorem WInv.step {w : World} (h : WInv w) (op : WOp) (hop : op.appOk = true) : WInv (wstep w op) := by
  cases op with
  | base op => exact h.base op hop
  | login => exact h.login
  | cycle => exact h.cycle
  | friend u b => exact h.friend u b
  | tadd u => exact h.tadd u
  | tfin id => exact h.setFinished id true
  | tque id => exact h.setFinished id false
  | trm id => exact ((h.trmStart id).trmDrop id).trmEnd id
  | trmStart id => exact h.trmStart id
  | trmDrop id => exact h.trmDrop id
  | trmEnd id => exact h.trmEnd id

theorem winv_reach (ops : List WOp) (hops : ∀ op ∈ ops, op.appOk = true) : WInv (wrun World.init ops) :=
  List.foldlRecOn (motive := WInv) ops wstep .init fun _ hw op hop => hw.step op (hops op hop)

theorem wrun_append (w : World) (a b : List WOp) : wrun w (a ++ b) = wrun (wrun w a) b := List.foldl_append

/-- `t'` comes from `t` by calls of the owners: they name FRIEND or TRANSFER, never REQUESTED -/
def Asked (t t' : State) : Prop := ∃ ops, t' = run t ops ∧ ∀ o ∈ ops, o.names (·.req) = false

theorem Asked.refl (t : State) : Asked t t := ⟨[], rfl, nofun⟩

theorem Asked.one (t : State) {o : Op} (ho : o.names (·.req) = false) : Asked t (step t o) :=
  ⟨[o], rfl, fun _ h => List.mem_singleton.mp h ▸ ho⟩

theorem Asked.one_if (t : State) {c : Prop} {_ : Decidable c} {o : Op} (ho : o.names (·.req) = false) :
    Asked t (if c then step t o else t) := by
  split
  · exact .one t ho
  · exact .refl t

theorem Asked.trans {a b c : State} (h1 : Asked a b) (h2 : Asked b c) : Asked a c := by
  obtain ⟨o1, rfl, n1⟩ := h1
  obtain ⟨o2, rfl, n2⟩ := h2
  exact ⟨o1 ++ o2, (run_append ..).symm, fun o ho => (List.mem_append.mp ho).elim (n1 o) (n2 o)⟩

theorem trmStart_asked (w : World) (id : Nat) : Asked w.t (w.trmStart id).t := by
  unfold World.trmStart
  split <;> exact .refl _

theorem trmDrop_asked (w : World) (id : Nat) : Asked w.t (w.trmDrop id).t := by
  unfold World.trmDrop
  split
  · exact .refl _
  · split <;> exact .refl _

theorem trmEnd_asked (w : World) (id : Nat) : Asked w.t (w.trmEnd id).t := by
  unfold World.trmEnd
  split
  · exact .refl _
  · split
    · exact .refl _
    · next u _ =>
      show Asked w.t (if ∃ y ∈ w.xfers, y.user = u then w.t else step w.t (.untrack u fTr))
      split
      · exact .refl _
      · exact .one _ rfl

theorem wstep_asked (w : World) (op : WOp) (hop : ∀ b, op ≠ .base b) : Asked w.t (wstep w op).t := by
  cases op with
  | base b => exact absurd rfl (hop b)
  | login => exact ⟨w.loginOps, rfl, w.loginOps_names rfl⟩
  | cycle => exact ⟨w.cycleOps, rfl, w.cycleOps_names rfl⟩
  | friend u b =>
    cases b with
    | true =>
      rw [wstep]
      split
      · exact .refl _
      · exact .one_if _ rfl
    | false =>
      rw [wstep]
      split
      · exact .one_if _ rfl
      · exact .refl _
  | tadd | tfin | tque => exact .refl _
  | trm id => exact ((trmStart_asked w id).trans (trmDrop_asked _ id)).trans (trmEnd_asked _ id)
  | trmStart id => exact trmStart_asked w id
  | trmDrop id => exact trmDrop_asked w id
  | trmEnd id => exact trmEnd_asked w id

theorem wstep_is_run (w : World) (op : WOp) : ∃ ops, (wstep w op).t = run w.t ops := by
  by_cases hop : ∃ b, op = .base b
  · obtain ⟨b, rfl⟩ := hop
    exact ⟨[b], by cases b <;> rfl⟩
  · obtain ⟨ops, h, _⟩ := wstep_asked w op fun b hb => hop ⟨b, hb⟩
    exact ⟨ops, h⟩

theorem wrun_is_run (wops : List WOp) : ∃ ops, (wrun World.init wops).t = run State.init ops :=
  List.foldlRecOn (motive := fun w : World => ∃ ops, w.t = run State.init ops) wops wstep ⟨[], rfl⟩
    fun w ⟨ops0, h0⟩ op _ => let ⟨ops1, h1⟩ := wstep_is_run w op; ⟨ops0 ++ ops1, by rw [h1, h0, run_append]⟩

theorem req_owner_step (w : World) (op : WOp) (hop : ∀ b, op ≠ .base b) (u : Nat) :
    (reasons (wstep w op).t u).req = (reasons w.t u).req := by
  obtain ⟨ops, h, hn⟩ := wstep_asked w op hop
  rw [h]
  exact Comp.req.kept_run _ _ hn u

theorem World.rederived (w : World) (u : Nat) (hu : u ≠ me) :
    reasons (wrun w [.base .serverClosed, .login, .cycle]).t u
      = ⟨false, decide (w.HasUnfinished u), decide (u ∈ w.friends)⟩ := by
  let w2 := wstep w.close .login
  have h1 : reasons w.close.t u = Flags.empty := rfl
  have h2 : reasons w2.t u = ⟨false, false, decide (u ∈ w.friends)⟩ := by
    show reasons (run w.close.t w.close.loginOps) u = _
    rw [World.reasons_login _ u hu, h1]
    show (if u ∈ w.friends then _ else _) = _
    split <;> simp [*, Flags.add, Flags.empty, fFr]
  show reasons (run w2.t w2.cycleOps) u = _
  rw [World.reasons_cycle, h2]
  show (if w.HasUnfinished u then _ else if w.HasFinished u then _ else _) = _
  by_cases h3 : w.HasUnfinished u <;> by_cases h4 : w.HasFinished u <;> simp [h3, h4, Flags.add, Flags.remove, fTr]

end AioslskVerif.Track
