import AioslskVerif.Model.Entitle
import AioslskVerif.Spec.Entitle
import AioslskVerif.Proofs.Query
import AioslskVerif.Proofs.Shares
/-!
What the generated transfer table says of an upload is read off once (`methSR_eq`, through `accepts`): the state an
accepted method leads to depends on the method only. What a peer's request does to the uploads is one of the five
shapes of `Admitted`; an op other than a cycle raises the shares-changed flag or is `Quiet`.
-/
namespace AioslskVerif.Entitle
open AioslskVerif AioslskVerif.Shares AioslskVerif.Transfer
open AioslskVerif.Generated.Entitle

theorem infixB_iff (a s : List Ch) : infixB a s = true ↔ a <:+: s := by
  induction s with
  | nil => simp [infixB]
  | cons ch s ih => simp [infixB, List.infix_cons_iff, ih]

theorem mem_found {K : Query.Cls Ch} {c : Cfg} {sh : Shares.St Comp} {q : List Ch} {it : SItem}
    (h : it ∈ found K c sh q) : it ∈ sh.tm ∧ excludedBy K c.excluded (qp it) = false := by
  obtain ⟨h1, _, h3⟩ := Query.mem_query K qp _ _ _ _ _ h
  exact ⟨h1, by simpa using h3⟩

theorem searchReply_some {K : Query.Cls Ch} {c : Cfg} {sh : Shares.St Comp} {u : Name} {q : List Ch}
    {vis lk : List SItem} (h : searchReply K c sh u q = some (vis, lk)) :
    vis = (found K c sh q).filter (fun it => !locked c it.sd u) ∧
      lk = (found K c sh q).filter (fun it => locked c it.sd u) := by
  simp only [searchReply] at h
  split at h
  · cases h
  · split at h
    · cases h
    · simp only [splitVisible, Option.some.injEq, Prod.mk.injEq] at h
      exact ⟨h.1.symm, h.2.symm⟩

theorem mem_listing {c : Cfg} {items : List SItem} {e : List Comp × List Comp} {n : Comp}
    (he : e ∈ listing c items) (hn : n ∈ e.2) : ∃ it ∈ items, remoteDirParts c it = e.1 ∧ it.name = n := by
  simp only [listing, List.mem_map] at he
  obtain ⟨d, _, rfl⟩ := he
  simp only [List.mem_map, List.mem_filter, decide_eq_true_eq] at hn
  obtain ⟨it, ⟨h1, h2⟩, rfl⟩ := hn
  exact ⟨it, h1, h2, rfl⟩

theorem mem_directoryReply {c : Cfg} {sh : Shares.St Comp} {req : List Ch} {e : List Ch × List SItem}
    (he : e ∈ directoryReply c sh req) : e.1 = req ∧ ∀ it ∈ e.2, it ∈ sh.items ∧ remoteDir c it = req := by
  simp only [directoryReply] at he
  split at he
  · cases List.mem_singleton.1 he
    exact ⟨rfl, fun it hit => by simpa using hit⟩
  · cases he

theorem mem_allSt (st : St) : st ∈ allSt := by cases st <;> decide

/-- the state an accepted method leads to: for an upload it depends on the method only -/
def _root_.AioslskVerif.Transfer.Meth.target : Meth → St
  | .fail => .failed | .abort => .aborted | .queue => .queued | .initialize => .initializing
  | .complete => .complete | .incomplete => .incomplete | .start => .uploading | .pause => .paused

/-- the state class overrides the method -/
def accepts (st : St) (m : Meth) : Bool := (Generated.Transfer.implStep .upload st m).isSome

def reasonAfter (m : Meth) (r : Option Reason) (st : St) (a : Option Reason) : Option Reason :=
  match m, st with
  | .abort, _ => r
  | .queue, .failed => none
  | .queue, .aborted => none
  | _, _ => a

/-- the generated table on the two fields the model keeps, row by row -/
theorem methSR_eq (m : Meth) (r a : Option Reason) (st : St) :
    methSR m r (st, a) =
      if accepts st m then ((m.target, reasonAfter m r st a), true) else ((st, a), false) := by
  cases st <;> cases m <;> rfl

theorem accepts_settled {st : St} {m : Meth} (hst : st = .complete ∨ st = .failed ∨ st = .aborted)
    (h : accepts st m = true) : m = .queue := by
  rcases hst with rfl | rfl | rfl <;> cases m <;> first | rfl | cases h

theorem refuses_abort {st : St} (h : accepts st .abort = false) :
    st = .virgin ∨ st = .complete ∨ st = .failed ∨ st = .aborted := by
  cases st <;> first | decide | cases h

theorem target_ne_virgin (m : Meth) : m.target ≠ .virgin := by cases m <;> decide

theorem target_aborted {m : Meth} (h : m.target = .aborted) : m = .abort := by
  cases m <;> first | rfl | cases h

theorem methSR_cases (m : Meth) (r : Option Reason) (sr : St × Option Reason) :
    (accepts sr.1 m = false ∧ methSR m r sr = (sr, false)) ∨
    (accepts sr.1 m = true ∧ (methSR m r sr).1.1 = m.target ∧ (m = .abort → (methSR m r sr).1.2 = r)) := by
  obtain ⟨st, a⟩ := sr
  rw [methSR_eq]
  cases h : accepts st m
  · exact Or.inl ⟨rfl, rfl⟩
  · exact Or.inr ⟨rfl, rfl, fun hm => by rw [hm]; rfl⟩

theorem methSR_refused {m : Meth} {sr : St × Option Reason}
    (hst : sr.1 = .complete ∨ sr.1 = .failed ∨ sr.1 = .aborted) (hm : m ≠ .queue) (r : Option Reason) :
    methSR m r sr = (sr, false) := by
  rcases methSR_cases m r sr with h | h
  · exact h.2
  · exact absurd (accepts_settled hst h.1) hm

theorem applyMeth_refused {m : Meth} {x : Xfer}
    (hst : x.state = .complete ∨ x.state = .failed ∨ x.state = .aborted) (hm : m ≠ .queue) (r : Option Reason) :
    applyMeth m r x = (x, false) := by
  rw [applyMeth, methSR_refused (sr := x.sr) hst hm]
  rfl

theorem fail_not_queued (r : Option Reason) (x : Xfer) (h : (applyMeth .fail r x).1.state = .queued) :
    (applyMeth .fail r x).1 = x := by
  rcases methSR_cases .fail r x.sr with h' | h'
  · rw [applyMeth, h'.2]; rfl
  · exact absurd (h.symm.trans h'.2.1) (by decide)

theorem newUpload_eq (u : Name) (p : List Ch) : newUpload u p = { user := u, path := p, state := .queued, reason := none } := by
  rfl

theorem runCalls_cons (c : Call) (cs : List Call) (sr : St × Option Reason) :
    runCalls (c :: cs) sr = runCalls cs (runCall c sr) := rfl

theorem runCalls_append (cs ds : List Call) (sr : St × Option Reason) :
    runCalls (cs ++ ds) sr = runCalls ds (runCalls cs sr) := List.foldl_append ..

theorem runCalls_refused (cs : List Call) (sr : St × Option Reason)
    (hst : sr.1 = .complete ∨ sr.1 = .failed ∨ sr.1 = .aborted) (hc : ∀ c ∈ cs, c.m ≠ .queue) :
    runCalls cs sr = sr := by
  induction cs with
  | nil => rfl
  | cons c cs ih =>
    rw [runCalls_cons, runCall, methSR_refused hst (hc c List.mem_cons_self)]
    exact ih (fun d hd => hc d (List.mem_cons_of_mem _ hd))

theorem runCalls_not_virgin (cs : List Call) (sr : St × Option Reason) (h : sr.1 ≠ .virgin) :
    (runCalls cs sr).1 ≠ .virgin := by
  induction cs generalizing sr with
  | nil => exact h
  | cons c cs ih =>
    rw [runCalls_cons]
    refine ih _ ?_
    rcases methSR_cases c.m c.r sr with h' | h'
    · rw [runCall, h'.2]; exact h
    · rw [runCall, h'.2.1]; exact target_ne_virgin _

theorem runCalls_aborted (cs : List Call) (sr : St × Option Reason) (h : (runCalls cs sr).1 = .aborted) :
    (sr.1 = .aborted ∧ runCalls cs sr = sr) ∨ ∃ c ∈ cs, c.m = .abort ∧ (runCalls cs sr).2 = c.r := by
  induction cs generalizing sr with
  | nil => exact Or.inl ⟨h, rfl⟩
  | cons c cs ih =>
    rw [runCalls_cons] at h ⊢
    rcases ih _ h with ⟨h1, h2⟩ | ⟨d, hd, h2⟩
    · rw [h2]
      rcases methSR_cases c.m c.r sr with h' | h'
      · left; rw [runCall, h'.2] at h1 ⊢; exact ⟨h1, rfl⟩
      · exact Or.inr ⟨c, List.mem_cons_self, target_aborted (h'.2.1.symm.trans h1), h'.2.2 (target_aborted (h'.2.1.symm.trans h1))⟩
    · exact Or.inr ⟨d, List.mem_cons_of_mem _ hd, h2⟩

theorem abort_after_calls (cs : List Call) (sr : St × Option Reason) (r : Option Reason) (j : Bool)
    (hv : sr.1 ≠ .virgin) (ha : sr.1 ≠ .aborted) :
    let sr' := runCall { m := .abort, r := r, job := j } (runCalls cs sr)
    (sr'.1 = .aborted ∧ (sr'.2 = r ∨ ∃ c ∈ cs, c.m = .abort ∧ sr'.2 = c.r)) ∨
      sr'.1 = .complete ∨ sr'.1 = .failed := by
  intro sr'
  rcases methSR_cases .abort r (runCalls cs sr) with h | h
  · have e : sr' = runCalls cs sr := congrArg Prod.fst h.2
    rw [e]
    rcases refuses_abort h.1 with h1 | h1 | h1 | h1
    · exact absurd h1 (runCalls_not_virgin cs sr hv)
    · exact Or.inr (Or.inl h1)
    · exact Or.inr (Or.inr h1)
    · rcases runCalls_aborted cs sr h1 with h2 | h2
      · exact absurd h2.1 ha
      · exact Or.inl ⟨h1, Or.inr h2⟩
  · exact Or.inl ⟨h.2.1, Or.inl (h.2.2 rfl)⟩

theorem updFirst_getElem? (p : Xfer → Bool) (f : Xfer → Xfer) (xs : List Xfer) (k : Nat) (y : Xfer)
    (h : xs[k]? = some y) :
    (updFirst p f xs)[k]? = some y ∨ (xs.find? p = some y ∧ (updFirst p f xs)[k]? = some (f y)) := by
  induction xs generalizing k with
  | nil => cases h
  | cons z l ih =>
    rw [updFirst, List.find?_cons]
    cases hz : p z
    · cases k with
      | zero => exact Or.inl h
      | succ k => exact ih k h
    · cases k with
      | zero => cases h; exact Or.inr ⟨rfl, rfl⟩
      | succ k => exact Or.inl h

theorem mem_updFirst (p : Xfer → Bool) (f : Xfer → Xfer) (xs : List Xfer) (x' : Xfer) (h : x' ∈ updFirst p f xs) :
    x' ∈ xs ∨ ∃ y, xs.find? p = some y ∧ x' = f y := by
  induction xs with
  | nil => cases h
  | cons z l ih =>
    rw [updFirst] at h
    rw [List.find?_cons]
    cases hz : p z <;> rw [hz] at h <;> rcases List.mem_cons.1 h with rfl | h
    · exact Or.inl List.mem_cons_self
    · exact (ih h).imp_left (List.mem_cons_of_mem _)
    · exact Or.inr ⟨z, rfl, rfl⟩
    · exact Or.inl (List.mem_cons_of_mem _ h)

theorem length_updFirst (p : Xfer → Bool) (f : Xfer → Xfer) (xs : List Xfer) : (updFirst p f xs).length = xs.length := by
  induction xs with
  | nil => rfl
  | cons z l ih => rw [updFirst]; split <;> simp [ih]

theorem entitled_of_findShared {c : Cfg} {sh : Shares.St Comp} {u : Name} {p : List Ch} {it : SItem}
    (h : findShared c sh u p = some it) : Entitled c sh u p := by
  simp only [findShared] at h
  split at h
  · cases h
  · rename_i it' hf
    split at h
    · cases h
    · rename_i hl
      exact ⟨it', List.mem_of_find?_eq_some hf, by simpa using List.find?_some hf, by simpa using hl⟩

theorem findShared_isNone_iff (c : Cfg) (sh : Shares.St Comp) (hU : UniquePaths c sh) (u : Name) (p : List Ch) :
    (findShared c sh u p).isNone = true ↔ ¬ Entitled c sh u p := by
  constructor
  · rintro h ⟨it, hit, hp, hl⟩
    simp only [findShared] at h
    cases hf : sh.items.find? (fun it => remotePath c it = p) with
    | none => exact absurd hp (by simpa using List.find?_eq_none.1 hf it hit)
    | some it' =>
      -- the item found is `it`: remote paths are unique
      have : it' = it :=
        hU it' (List.mem_of_find?_eq_some hf) it hit ((by simpa using List.find?_some hf : remotePath c it' = p).trans hp.symm)
      simp [hf, this, hl] at h
  · intro h
    cases hf : findShared c sh u p with
    | none => rfl
    | some it => exact absurd (entitled_of_findShared hf) h

/-- What a peer's request does to the list of uploads, at either entry point: nothing (the user is
refused, or is entitled and gets some answer), a new upload for an entitled user, `fail` on the upload
it names, or — `PeerTransferQueue` only — `queue` on the COMPLETE / FAILED upload an entitled user names. -/
inductive Admitted (c : Cfg) (sh : Shares.St Comp) (xs : List Xfer) (u : Name) (p : List Ch) :
    List Xfer × Option FailR → Prop
  | refused : Admitted c sh xs u p (xs, some .notShared)
  | kept (hb : isBlocked c u 32 = false) (hE : Entitled c sh u p) (r : Option FailR) : Admitted c sh xs u p (xs, r)
  | new (hb : isBlocked c u 32 = false) (hE : Entitled c sh u p) (r : Option FailR) :
      Admitted c sh xs u p (xs ++ [newUpload u p], r)
  | failed : Admitted c sh xs u p (updFirst (sameKey u p) (fun y => (applyMeth .fail none y).1) xs, some .notShared)
  | requeued (hb : isBlocked c u 32 = false) (hE : Entitled c sh u p) (y : Xfer)
      (hfind : xs.find? (sameKey u p) = some y) (hst : y.state ∈ requeueStates) :
      Admitted c sh xs u p (updFirst (sameKey u p) (fun y => (applyMeth .queue none y).1) xs, none)

theorem onQueue_admitted (c : Cfg) (sh : Shares.St Comp) (xs : List Xfer) (u : Name) (p : List Ch) :
    Admitted c sh xs u p (onQueue c sh xs u p) := by
  simp only [onQueue, show queueFlag = 32 from rfl, show queueBlockedReason = .notShared from rfl]
  cases hb : isBlocked c u 32
  case true => exact .refused
  simp only [Bool.false_eq_true, if_false]
  cases hfind : xs.find? (sameKey u p) with
  | none =>
    cases hsh : findShared c sh u p with
    | none => exact .refused
    | some _ => exact .new hb (entitled_of_findShared hsh) _
  | some y =>
    cases hsh : findShared c sh u p with
    | none => exact .failed
    | some _ =>
      -- an upload the user is entitled to: answered "Cancelled" if ABORTED, queued again if COMPLETE / FAILED
      dsimp only
      split
      next => exact .kept hb (entitled_of_findShared hsh) _
      next =>
        split
        next hst => exact .requeued hb (entitled_of_findShared hsh) y hfind hst
        next => exact .kept hb (entitled_of_findShared hsh) _

theorem onRequest_admitted (c : Cfg) (sh : Shares.St Comp) (xs : List Xfer) (u : Name) (p : List Ch) :
    Admitted c sh xs u p (onRequest c sh xs u p) := by
  simp only [onRequest, show requestFlag = 32 from rfl, show requestBlockedReason = .notShared from rfl]
  cases hb : isBlocked c u 32
  case true => exact .refused
  simp only [Bool.false_eq_true, if_false]
  cases hfind : xs.find? (sameKey u p) with
  | none =>
    cases hsh : findShared c sh u p with
    | none => exact .refused
    | some _ => exact .new hb (entitled_of_findShared hsh) _
  | some y =>
    cases hsh : findShared c sh u p with
    | none => exact .failed
    | some _ => exact .kept hb (entitled_of_findShared hsh) _

theorem admit_entitled {c : Cfg} {sh : Shares.St Comp} {xs : List Xfer} {u : Name} {p : List Ch}
    (hb : isBlocked c u 32 = false) (hE : Entitled c sh u p) {r : List Xfer × Option FailR}
    (hlen : xs.length ≤ r.1.length) (hkey : ∀ x' ∈ r.1, x' ∉ xs → x'.user = u ∧ x'.path = p) :
    AdmitSound c sh xs u p r :=
  ⟨fun x' h hn _ => ⟨hb, hE, hkey x' h hn⟩, fun _ => ⟨hb, hE⟩, hlen, fun h => by
    rcases h with h | h
    · rw [hb] at h; cases h
    · exact absurd hE h⟩

theorem Admitted.sound {c : Cfg} {sh : Shares.St Comp} {xs : List Xfer} {u : Name} {p : List Ch}
    {r : List Xfer × Option FailR} (h : Admitted c sh xs u p r) : AdmitSound c sh xs u p r := by
  cases h with
  | refused => exact ⟨fun _ h hn => absurd h hn, fun h => absurd h (Nat.lt_irrefl _), Nat.le_refl _, fun _ => rfl⟩
  | kept hb hE r => exact admit_entitled hb hE (Nat.le_refl _) (fun _ h hn => absurd h hn)
  | new hb hE r =>
    refine admit_entitled hb hE (by simp) fun x' hx' hn => ?_
    rcases List.mem_append.1 hx' with h | h
    · exact absurd h hn
    · rw [List.mem_singleton.1 h]; exact ⟨rfl, rfl⟩
  | failed =>
    -- `fail` brings nothing into QUEUED
    refine ⟨fun x' hx' hn hst => ?_, fun h => absurd h (by simp [length_updFirst]), by simp [length_updFirst], fun _ => rfl⟩
    rcases mem_updFirst _ _ _ _ hx' with h | ⟨y, hy, rfl⟩
    · exact absurd h hn
    · rw [fail_not_queued none y hst] at hn
      exact absurd (List.mem_of_find?_eq_some hy) hn
  | requeued hb hE y hfind hst =>
    refine admit_entitled hb hE (by simp [length_updFirst]) fun x' hx' hn => ?_
    rcases mem_updFirst _ _ _ _ hx' with h | ⟨z, hz, rfl⟩
    · exact absurd h hn
    · cases hfind.symm.trans hz
      exact (by simpa [sameKey] using List.find?_some hfind : y.user = u ∧ y.path = p)

theorem Admitted.getElem? {c : Cfg} {sh : Shares.St Comp} {xs : List Xfer} {u : Name} {p : List Ch}
    {r : List Xfer × Option FailR} (h : Admitted c sh xs u p r) {k : Nat} {x : Xfer} (hk : xs[k]? = some x) :
    r.1[k]? = some x ∨ r.1[k]? = some (applyMeth .fail none x).1 ∨
      (x.state ∈ requeueStates ∧ r.1[k]? = some (applyMeth .queue none x).1) := by
  cases h with
  | refused => exact Or.inl hk
  | kept => exact Or.inl hk
  | new => exact Or.inl ((List.getElem?_append_left (List.getElem?_eq_some_iff.1 hk).1).trans hk)
  | failed =>
    rcases updFirst_getElem? _ _ _ _ _ hk with h | h
    · exact Or.inl h
    · exact Or.inr (Or.inl h.2)
  | requeued _ _ y hfind hst =>
    rcases updFirst_getElem? _ _ _ _ _ hk with h | h
    · exact Or.inl h
    · cases hfind.symm.trans h.1
      exact Or.inr (Or.inr ⟨hst, h.2⟩)

theorem verdict_spec (b n : Bool) (a : Option Reason) :
    verdict b n a = if a = some .requested then some .requested
      else if b then some .blocked else if n then some .notShared else none := by
  -- `find?` over the three `conditions` in source order is this cascade
  simp only [verdict, conditions, List.find?_cons, List.find?_nil, condHolds, requestedReason]
  by_cases ha : a = some .requested
  · simp [ha]
  · cases b <;> cases n <;> simp [ha]

theorem cycleAct_eq (b n : Bool) (st : St) (a : Option Reason) (h1 : st ≠ .complete) (h2 : st ≠ .failed) :
    cycleAct b n (st, a) =
      match verdict b n a with
      | some r => if st = .aborted then .assign r else .call .abort (some r)
      | none => if st = .aborted then .call .queue none else .none := by
  have hs : st ∉ skipStates := by simp [skipStates, h1, h2]
  simp only [cycleAct, hs, if_false]
  cases verdict b n a <;> by_cases ha : st = .aborted <;> simp [ha]

theorem reconcileSR_eq (b n : Bool) (st : St) (a : Option Reason)
    (h1 : st ≠ .complete) (h2 : st ≠ .failed) (h3 : st ≠ .virgin) :
    reconcileSR b n (st, a) =
      match verdict b n a with
      | some r => (.aborted, some r)
      | none => if st = .aborted then (.queued, none) else (st, a) := by
  rw [reconcileSR, cycleAct_eq b n st a h1 h2]
  by_cases ha : st = .aborted
  · subst ha
    cases verdict b n a with
    | some r => rfl  -- the reason is assigned, no state method runs
    | none => rfl    -- the table's `queue` row for ABORTED: QUEUED, the reason cleared
  · cases verdict b n a with
    | none => simp only [if_neg ha, applyAct]
    | some r =>
      -- a live state accepts `abort`
      simp only [if_neg ha, applyAct]
      rcases methSR_cases .abort (some r) (st, a) with h | h
      · rcases refuses_abort h.1 with h | h | h | h <;> contradiction
      · exact Prod.ext h.2.1 (h.2.2 rfl)

theorem reconcile1_spec (c : Cfg) (sh : Shares.St Comp) (hU : UniquePaths c sh) (x : Xfer)
    (h1 : x.state ≠ .complete) (h2 : x.state ≠ .failed) (h3 : x.state ≠ .virgin) :
    Reconciled c sh x (reconcile1 c sh x) := by
  have hn := findShared_isNone_iff c sh hU x.user x.path
  have hsh : Entitled c sh x.user x.path → fileNotShared c sh x = false :=
    fun hE => Bool.eq_false_iff.2 (fun h => hn.1 h hE)
  have hsr := reconcileSR_eq (userBlocked c x) (fileNotShared c sh x) x.state x.reason h1 h2 h3
  rw [verdict_spec] at hsr
  rw [show reconcile1 c sh x =
    x.withSR (reconcileSR (userBlocked c x) (fileNotShared c sh x) (x.state, x.reason)) from rfl, hsr]
  refine ⟨rfl, rfl, fun ha hr => ?_, fun hr => ⟨fun hb => ?_, fun hb hE => ?_, fun hb hE ha => ?_, fun hb hE ha => ?_⟩⟩
  · simp only [if_pos hr]
    rw [← ha, ← hr]; rfl
  · simp only [if_neg hr, show userBlocked c x = true from hb, if_true]
    exact ⟨rfl, rfl⟩
  · simp only [if_neg hr, show userBlocked c x = false from hb, show fileNotShared c sh x = true from hn.2 hE,
      Bool.false_eq_true, if_false, if_true]
    exact ⟨rfl, rfl⟩
  · simp only [if_neg hr, show userBlocked c x = false from hb, hsh hE, Bool.false_eq_true, if_false, if_pos ha]
    exact ⟨rfl, rfl⟩
  · simp only [if_neg hr, show userBlocked c x = false from hb, hsh hE, Bool.false_eq_true, if_false, if_neg ha]
    rfl

theorem flightOf_k {fs : List Flight} {k : Nat} {f : Flight} (h : flightOf fs k = some f) : f.k = k := by
  simpa using List.find?_some h

theorem flightOf_map (fs : List Flight) (g : Flight → Flight) (hg : ∀ f, (g f).k = f.k) (k : Nat) :
    flightOf (fs.map g) k = (flightOf fs k).map g := by
  simp only [flightOf, List.find?_map, Function.comp_def, hg]

theorem flightOf_addWaiter_ne (fs : List Flight) (c : Call) {k k' : Nat} (h : k' ≠ k) :
    flightOf (addWaiter fs k' c) k = flightOf fs k := by
  rw [addWaiter, flightOf_map _ _ (fun f => by split <;> rfl)]
  cases hf : flightOf fs k with
  | none => rfl
  | some f => simp [flightOf_k hf, Ne.symm h]

theorem flightOf_append_ne (fs : List Flight) {g : Flight} {k : Nat} (h : g.k ≠ k) :
    flightOf (fs ++ [g]) k = flightOf fs k := by
  simp [flightOf, List.find?_append, h]

theorem flightOf_filter_ne (fs : List Flight) {k k' : Nat} (h : k' ≠ k) :
    flightOf (fs.filter (fun g => g.k ≠ k')) k = flightOf fs k := by
  simp only [flightOf, List.find?_filter]
  congr 1
  funext a
  by_cases ha : a.k = k <;> simp [ha, Ne.symm h]

theorem flightOf_filter_self (fs : List Flight) (k : Nat) : flightOf (fs.filter (fun g => g.k ≠ k)) k = none := by
  simp [flightOf, List.find?_filter]

theorem getElem?_reconcileFrom (c : Cfg) (sh : Shares.St Comp) (fs : List Flight) (xs : List Xfer) (i j : Nat) :
    (reconcileFrom c sh fs i xs)[j]? = (xs[j]?).map (fun x => (cycleOne c sh fs (i + j) x).1) := by
  induction xs generalizing i j with
  | nil => rfl
  | cons x l ih =>
    cases j with
    | zero => rfl
    | succ j => simp only [reconcileFrom, List.getElem?_cons_succ, ih, Nat.add_right_comm i 1 j, Nat.add_assoc]

theorem length_reconcileFrom (c : Cfg) (sh : Shares.St Comp) (fs : List Flight) (xs : List Xfer) (i : Nat) :
    (reconcileFrom c sh fs i xs).length = xs.length := by
  induction xs generalizing i with
  | nil => rfl
  | cons x l ih => simp [reconcileFrom, ih]

theorem flightOf_reconcileL (c : Cfg) (sh : Shares.St Comp) (fs : List Flight) (xs : List Xfer) (k : Nat) (x : Xfer)
    (hk : xs[k]? = some x) :
    flightOf (reconcileL c sh fs xs).2 k =
      (flightOf fs k).map fun f => { f with waiters := f.waiters ++ (cycleOne c sh fs k x).2.toList } := by
  rw [reconcileL, flightOf_map _ _ (fun f => by
    split
    · split <;> rfl
    · rfl)]
  cases hf : flightOf fs k with
  | none => rfl
  | some f =>
    obtain rfl := flightOf_k hf
    simp only [Option.map_some, hk]
    cases (cycleOne c sh fs f.k x).2 <;> simp

theorem cycleOne_free (c : Cfg) (sh : Shares.St Comp) (fs : List Flight) (k : Nat) (x : Xfer)
    (h : isLocked fs k = false) : (cycleOne c sh fs k x).1 = reconcile1 c sh x := by
  simp only [cycleOne, h, Bool.false_eq_true, if_false]
  rfl

theorem reconcileL_free (c : Cfg) (sh : Shares.St Comp) (xs : List Xfer) :
    reconcileL c sh [] xs = (reconcile c sh xs, []) := by
  refine Prod.ext (List.ext_getElem? fun j => ?_) rfl
  simp only [reconcileL, getElem?_reconcileFrom, reconcile, List.getElem?_map, cycleOne_free c sh [] _ _ rfl]

theorem cycleOne_locked (c : Cfg) (sh : Shares.St Comp) (fs : List Flight) (k : Nat) (x : Xfer) (r : Reason)
    (hl : isLocked fs k = true) (hv : verdict (userBlocked c x) (fileNotShared c sh x) x.reason = some r) :
    cycleOne c sh fs k x =
      if x.state = .complete ∨ x.state = .failed then (x, none)
      else if x.state = .aborted then (x.withSR (x.state, some r), none)
      else (x, some { m := .abort, r := some r, job := true }) := by
  simp only [cycleOne, hl, if_true]
  by_cases hfin : x.state = .complete ∨ x.state = .failed
  · have hs : x.state ∈ skipStates := by rcases hfin with h | h <;> simp [skipStates, h]
    simp [cycleAct, Xfer.sr, hs, hfin]
  · rw [show x.sr = (x.state, x.reason) from rfl, cycleAct_eq _ _ _ _ (fun h => hfin (Or.inl h)) (fun h => hfin (Or.inr h)), hv]
    by_cases ha : x.state = .aborted <;> simp [hfin, ha]

theorem verdict_of_not_permitted (c : Cfg) (sh : Shares.St Comp) (hU : UniquePaths c sh) (x : Xfer)
    (hreq : x.reason ≠ some .requested) (hnp : isBlocked c x.user 32 = true ∨ ¬ Entitled c sh x.user x.path) :
    verdict (userBlocked c x) (fileNotShared c sh x) x.reason =
      some (if isBlocked c x.user 32 then .blocked else .notShared) := by
  rw [verdict_spec, if_neg hreq, show userBlocked c x = isBlocked c x.user 32 from rfl]
  cases hb : isBlocked c x.user 32
  · have := (findShared_isNone_iff c sh hU x.user x.path).2 (hnp.resolve_left (by simp [hb]))
    simp [fileNotShared, this]
  · rfl

theorem busy_cycle_noop (s : S) (h : jobWaiting s.flights = true) : step s .cycle = (s, .busy) := by
  simp [step, h]

theorem cycle_idle (s : S) (hflag : s.sharesChanged = false) : (step s .cycle).1 = s := by
  simp only [step, hflag, Bool.false_eq_true, if_false]
  split <;> rfl

theorem cycle_runs (s : S) (hflag : s.sharesChanged = true) (hjob : jobWaiting s.flights = false) :
    (step s .cycle).1 = { s with xs := reconcileFrom s.cfg s.sh s.flights 0 s.xs,
                                 flights := (reconcileL s.cfg s.sh s.flights s.xs).2,
                                 sharesChanged := relookWhenLocked && !s.flights.isEmpty } := by
  simp only [step, hjob, hflag, Bool.false_eq_true, if_false, if_true, reconcileL]

theorem isLocked_cycle (s : S) (k : Nat) (x : Xfer) (hk : s.xs[k]? = some x) :
    isLocked (step s .cycle).1.flights k = isLocked s.flights k := by
  simp only [step]
  split
  · rfl
  · split
    · rw [isLocked, flightOf_reconcileL _ _ _ _ _ _ hk, Option.isSome_map]; rfl
    · rfl

theorem cycle_locked (s : S) (hflag : s.sharesChanged = true) (hjob : jobWaiting s.flights = false)
    (k : Nat) (x : Xfer) (f : Flight) (hk : s.xs[k]? = some x) (hf : flightOf s.flights k = some f) :
    (step s .cycle).1.xs[k]? = some (cycleOne s.cfg s.sh s.flights k x).1 ∧
    flightOf (step s .cycle).1.flights k = some
      { f with waiters := f.waiters ++ (cycleOne s.cfg s.sh s.flights k x).2.toList } := by
  rw [cycle_runs s hflag hjob]
  exact ⟨by simp [getElem?_reconcileFrom, hk], by simp only [flightOf_reconcileL _ _ _ _ _ _ hk, hf, Option.map_some]⟩

theorem cycle_locked_live (s : S) (hflag : s.sharesChanged = true) (hjob : jobWaiting s.flights = false)
    (k : Nat) (x : Xfer) (f : Flight) (hk : s.xs[k]? = some x) (hf : flightOf s.flights k = some f) (r : Reason)
    (hv : verdict (userBlocked s.cfg x) (fileNotShared s.cfg s.sh x) x.reason = some r)
    (hlive : x.state ≠ .complete ∧ x.state ≠ .failed ∧ x.state ≠ .aborted) :
    (step s .cycle).1.xs[k]? = some x ∧
    flightOf (step s .cycle).1.flights k = some
      { f with waiters := f.waiters ++ [{ m := .abort, r := some r, job := true }] } := by
  have h := cycle_locked s hflag hjob k x f hk hf
  rwa [cycleOne_locked _ _ _ _ _ r (by simp [isLocked, hf]) hv, if_neg (fun h => h.elim hlive.1 hlive.2.1),
    if_neg hlive.2.2] at h

theorem endCall_at (s : S) (k : Nat) (x : Xfer) (f : Flight) (hk : s.xs[k]? = some x)
    (hf : flightOf s.flights k = some f) :
    (step s (.endCall k)).1.xs[k]? = some (x.withSR (runCalls f.pendingCalls x.sr)) ∧
    isLocked (step s (.endCall k)).1.flights k = false := by
  have hlt : k < s.xs.length := (List.getElem?_eq_some_iff.1 hk).1
  simp only [step, endOn, hf, hk]
  exact ⟨List.getElem?_set_self hlt, by rw [isLocked, flightOf_filter_self]; rfl⟩

theorem cycle_end_locked (s : S) (hflag : s.sharesChanged = true) (hjob : jobWaiting s.flights = false)
    (k : Nat) (x : Xfer) (f : Flight) (hk : s.xs[k]? = some x) (hf : flightOf s.flights k = some f) :
    (run s [.cycle, .endCall k]).xs[k]? =
        some ((cycleOne s.cfg s.sh s.flights k x).1.withSR
          (runCalls (f.pendingCalls ++ (cycleOne s.cfg s.sh s.flights k x).2.toList)
            (cycleOne s.cfg s.sh s.flights k x).1.sr)) ∧
      isLocked (run s [.cycle, .endCall k]).flights k = false := by
  obtain ⟨hx1, hf1⟩ := cycle_locked s hflag hjob k x f hk hf
  obtain ⟨h1, h2⟩ := endCall_at _ k _ _ hx1 hf1
  refine ⟨h1.trans ?_, h2⟩
  simp [Flight.pendingCalls, List.append_assoc]

theorem callOn_ne (xs : List Xfer) (fs : List Flight) {k k' : Nat} (h : k' ≠ k) (c : Call) :
    (callOn xs fs k' c).1.1[k]? = xs[k]? ∧ flightOf (callOn xs fs k' c).1.2 k = flightOf fs k := by
  simp only [callOn]
  split
  · exact ⟨rfl, flightOf_addWaiter_ne fs c h⟩
  · refine ⟨?_, rfl⟩
    simp only [modifyAt]
    split
    · rfl
    · exact List.getElem?_set_ne h

theorem beginOn_ne (xs : List Xfer) (fs : List Flight) {k k' : Nat} (h : k' ≠ k) (c : Call) (ph : Phase) :
    (beginOn xs fs k' c ph).1.1[k]? = xs[k]? ∧ flightOf (beginOn xs fs k' c ph).1.2 k = flightOf fs k := by
  simp only [beginOn]
  split
  · exact callOn_ne xs fs h c
  · split
    · exact ⟨rfl, rfl⟩
    · split
      · exact ⟨rfl, rfl⟩
      · split
        · split
          · exact ⟨List.getElem?_set_ne h, flightOf_append_ne fs h⟩
          · exact ⟨List.getElem?_set_ne h, rfl⟩
        · exact ⟨List.getElem?_set_ne h, flightOf_append_ne fs h⟩

theorem endOn_ne (xs : List Xfer) (fs : List Flight) {k k' : Nat} (h : k' ≠ k) :
    (endOn xs fs k').1.1[k]? = xs[k]? ∧ flightOf (endOn xs fs k').1.2 k = flightOf fs k := by
  simp only [endOn]
  split
  · exact ⟨List.getElem?_set_ne h, flightOf_filter_ne fs h⟩
  · exact ⟨rfl, rfl⟩

theorem step_leaves (s : S) (op : Op) (k : Nat) (hop : Op.leaves k op = true) (hc : op ≠ .cycle) :
    (step s op).1.xs[k]? = s.xs[k]? ∧ flightOf (step s op).1.flights k = flightOf s.flights k := by
  cases op with
  | cycle => exact absurd rfl hc
  | queueReq u p => cases hop
  | xferReq u p => cases hop
  | meth k' m => exact callOn_ne _ _ (of_decide_eq_true hop) _
  | userAbort k' => exact callOn_ne _ _ (of_decide_eq_true hop) _
  | userQueue k' => exact callOn_ne _ _ (of_decide_eq_true hop) _
  | beginCall k' c ph => exact beginOn_ne _ _ (of_decide_eq_true hop) _ _
  | endCall k' => exact endOn_ne _ _ (of_decide_eq_true hop)
  | share d disk | unshare p | setMode p m | poll | reload es disk =>
    simp only [step]
    split <;> exact ⟨rfl, rfl⟩
  | _ => exact ⟨rfl, rfl⟩

/-- `hw`: a job of an earlier cycle waits for the lock on `k`, so a `.cycle` among `ops` finds the management task
busy and does nothing -/
theorem run_leaves (ops : List Op) (s : S) (k : Nat) (x : Xfer) (f : Flight) (hk : s.xs[k]? = some x)
    (hf : flightOf s.flights k = some f) (hw : f.waiters.any (·.job) = true)
    (hops : ∀ op ∈ ops, Op.leaves k op = true) :
    (run s ops).xs[k]? = some x ∧ flightOf (run s ops).flights k = some f := by
  induction ops generalizing s with
  | nil => exact ⟨hk, hf⟩
  | cons op ops ih =>
    have h : (step s op).1.xs[k]? = s.xs[k]? ∧ flightOf (step s op).1.flights k = flightOf s.flights k := by
      by_cases hc : op = .cycle
      · -- the job of the earlier cycle waits for this lock: the management task starts no other
        rw [hc, busy_cycle_noop s (List.any_eq_true.2 ⟨f, List.mem_of_find?_eq_some hf, hw⟩)]
        exact ⟨rfl, rfl⟩
      · exact step_leaves s op k (hops op List.mem_cons_self) hc
    exact ih _ (h.1.trans hk) (h.2.trans hf) (fun o ho => hops o (List.mem_cons_of_mem _ ho))

theorem callOn_beginOn_refused {xs : List Xfer} {fs : List Flight} {k : Nat} {x : Xfer} {c : Call} (hk : xs[k]? = some x)
    (hst : x.state = .complete ∨ x.state = .failed ∨ x.state = .aborted) (hm : c.m ≠ .queue)
    (hfree : isLocked fs k = false) (ph : Phase) :
    (callOn xs fs k c).1 = (xs, fs) ∧ (beginOn xs fs k c ph).1 = (xs, fs) := by
  obtain ⟨hlt, rfl⟩ := List.getElem?_eq_some_iff.1 hk
  have hacc : Generated.Transfer.implStep .upload xs[k].state c.m = none := by
    cases h : Generated.Transfer.implStep .upload xs[k].state c.m with
    | none => rfl
    | some te => exact absurd (accepts_settled hst (by rw [accepts, h]; rfl)) hm
  simp only [beginOn, callOn, hfree, Bool.false_eq_true, if_false, modifyAt, hk, applyMeth_refused hst hm,
    List.set_getElem_self, hacc, and_self]

theorem sticky_step (s : S) (op : Op) (k : Nat) (x : Xfer) (hk : s.xs[k]? = some x)
    (ha : x.state = .aborted) (hr : x.reason = some .requested) (hfree : isLocked s.flights k = false)
    (hop : Op.requeues k op = false) :
    (step s op).1.xs[k]? = some x ∧ isLocked (step s op).1.flights k = false := by
  have hst : x.state = .complete ∨ x.state = .failed ∨ x.state = .aborted := Or.inr (Or.inr ha)
  have hfail : (applyMeth .fail none x).1 = x := by rw [applyMeth_refused hst (by decide)]
  -- calls on the upload itself are refused
  have hown : ∀ {r : List Xfer × List Flight}, r = (s.xs, s.flights) → r.1[k]? = some x ∧ isLocked r.2 k = false :=
    fun h => h ▸ ⟨hk, hfree⟩
  -- a peer's request: `fail` is refused, and the upload is not one `PeerTransferQueue` queues again
  have hreq : ∀ {u p r}, Admitted s.cfg s.sh s.xs u p r → r.1[k]? = some x := fun h => by
    rcases h.getElem? hk with h | h | ⟨h, _⟩
    · exact h
    · exact h.trans (congrArg some hfail)
    · rw [ha] at h; exact absurd h (by decide)
  by_cases hl : Op.leaves k op = true ∧ op ≠ .cycle
  · obtain ⟨h3, h4⟩ := step_leaves s op k hl.1 hl.2
    exact ⟨h3.trans hk, by rw [isLocked, h4]; exact hfree⟩
  cases op with
  | queueReq u p =>
    refine ⟨?_, hfree⟩
    simp only [step, guarded]
    split
    · exact hk
    · exact hreq (onQueue_admitted ..)
  | xferReq u p =>
    refine ⟨?_, hfree⟩
    simp only [step, guarded]
    split
    · exact hk
    · exact hreq (onRequest_admitted ..)
  | cycle =>
    refine ⟨?_, (isLocked_cycle s k x hk).trans hfree⟩
    by_cases hflag : s.sharesChanged = true
    · by_cases hjob : jobWaiting s.flights = true
      · rw [busy_cycle_noop s hjob]; exact hk
      · -- the cycle's verdict is `Requested`, and the upload is ABORTED for it already
        have h : reconcileSR (userBlocked s.cfg x) (fileNotShared s.cfg s.sh x) (x.state, x.reason) =
            (x.state, x.reason) := by
          rw [reconcileSR_eq _ _ _ _ (by rw [ha]; decide) (by rw [ha]; decide) (by rw [ha]; decide), verdict_spec,
            if_pos hr, ha, hr]
        rw [cycle_runs s hflag (by simpa using hjob)]
        simp only [getElem?_reconcileFrom, hk, Option.map_some, Nat.zero_add, cycleOne_free _ _ _ _ _ hfree]
        rw [reconcile1, reconcileX, show x.sr = (x.state, x.reason) from rfl, h]
        rfl
    · rw [cycle_idle s (by simpa using hflag)]; exact hk
  | meth k' m =>
    obtain rfl : k' = k := by simpa [Op.leaves] using hl
    exact hown (callOn_beginOn_refused hk hst (by simpa [Op.requeues] using hop) hfree .notifying).1
  | userAbort k' =>
    obtain rfl : k' = k := by simpa [Op.leaves] using hl
    exact hown (callOn_beginOn_refused hk hst (by decide) hfree .notifying).1
  | userQueue k' => simp [Op.leaves, Op.requeues] at hl hop; exact absurd hl hop
  | beginCall k' c ph =>
    obtain rfl : k' = k := by simpa [Op.leaves] using hl
    exact hown (callOn_beginOn_refused hk hst (by simpa [Op.requeues] using hop) hfree ph).2
  | endCall k' =>
    obtain rfl : k' = k := by simpa [Op.leaves] using hl
    have : flightOf s.flights k' = none := by simpa [isLocked] using hfree
    simp only [step, endOn, this]
    exact ⟨hk, hfree⟩
  | _ => exact absurd ⟨rfl, nofun⟩ hl

theorem run_append (s : S) (a b : List Op) : run s (a ++ b) = run (run s a) b := List.foldl_append ..

theorem foldAdd_paths (ps : List (List Comp)) (sh : Shares.St Comp) (q : List Comp) (h : q ∈ sh.paths ∨ q ∈ ps) :
    q ∈ (ps.foldl (fun s p => (add s p).1) sh).paths := by
  induction ps generalizing sh with
  | nil => simpa using h
  | cons p ps ih =>
    refine ih _ ?_
    rcases h with h | h
    · exact Or.inl (add_paths_mono sh p q h)
    · rcases List.mem_cons.1 h with rfl | h
      · exact Or.inl (mem_add_paths sh q)
      · exact Or.inr h

theorem inv_reload (sh : Shares.St Comp) (ps : List (List Comp)) (disk : List (File Comp)) (h : Shares.Inv sh)
    (hn : ps.Nodup) :
    Shares.Inv (ps.foldl (fun sh p => scanDir sh p disk) (reloadSh sh ps)) ∧
      (ps.foldl (fun sh p => scanDir sh p disk) (reloadSh sh ps)).paths = ps := by
  have h1 : Shares.Inv (ps.foldl (fun s p => (add s p).1) sh) :=
    List.foldlRecOn (motive := Shares.Inv) ps _ h fun s hs p _ => inv_add s p hs
  have h2 : Shares.Inv (reloadSh sh ps) :=
    ⟨hn, fun it hit => List.contains_iff_mem.1 (List.mem_filter.1 hit).2,
      fun it hit q hq hpre => h1.innermost it (List.mem_filter.1 hit).1 q (foldAdd_paths ps sh q (Or.inr hq)) hpre,
      List.filter_sublist.nodup h1.items_nodup, List.filter_sublist.nodup h1.items_nodup, fun _ => Iff.rfl⟩
  exact inv_paths_scanAll disk ps (reloadSh sh ps) h2 (fun _ hp => hp)

/-- what every reachable state satisfies: the index is well-formed and every configured directory
(`DirInfo`) belongs to a shared path -/
structure WF (s : S) : Prop where
  sh : Shares.Inv s.sh
  dirs : ∀ d ∈ s.cfg.dirs, d.path ∈ s.sh.paths

theorem wf_init (s : S) (h1 : s.sh = {}) (h2 : s.cfg.dirs = []) : WF s :=
  ⟨by rw [h1]; exact Shares.inv_init, by simp [h2]⟩

/-- both parts of `WF` across one op (the first needs nothing of the configuration) -/
theorem wf_parts_step (s : S) (op : Op) (h : Shares.Inv s.sh) :
    Shares.Inv (step s op).1.sh ∧
      ((∀ d ∈ s.cfg.dirs, d.path ∈ s.sh.paths) → ∀ d ∈ (step s op).1.cfg.dirs, d.path ∈ (step s op).1.sh.paths) := by
  cases op with
  | share d disk =>
    simp only [step]
    split
    · refine ⟨inv_scanDir _ _ disk (inv_add s.sh d.path h) (mem_add_paths s.sh d.path), fun hd d' hd' => ?_⟩
      show d'.path ∈ (add s.sh d.path).1.paths
      rcases List.mem_append.1 hd' with hd' | hd'
      · exact add_paths_mono _ _ _ (hd d' hd')
      · rw [List.mem_singleton.1 hd']
        exact mem_add_paths s.sh d.path
    · exact ⟨h, id⟩
  | unshare p =>
    simp only [step]
    split
    · refine ⟨inv_remove s.sh p h, fun hd d' hd' => ?_⟩
      simp only [List.mem_filter, decide_eq_true_eq] at hd'
      exact remove_paths_mem s.sh p d'.path (hd d' hd'.1) hd'.2
    · exact ⟨h, id⟩
  | setMode p m =>
    simp only [step]
    split
    · refine ⟨h, fun hd d' hd' => ?_⟩
      simp only [setDirMode, List.mem_map] at hd'
      obtain ⟨d0, hd0, rfl⟩ := hd'
      split <;> exact hd d0 hd0
    · exact ⟨h, id⟩
  | reload es disk =>
    simp only [step]
    split
    · exact ⟨h, id⟩
    · rename_i hn
      obtain ⟨h1, h2⟩ := inv_reload s.sh _ disk h (by simpa using hn)
      exact ⟨h1, fun _ d' hd' => by rw [h2]; exact List.mem_map_of_mem hd'⟩
  | scanAll disk =>
    obtain ⟨h1, h2⟩ := inv_paths_scanAll disk s.sh.paths s.sh h (fun _ hp => hp)
    exact ⟨h1, fun hd d' hd' => h2.symm ▸ hd d' hd'⟩
  | poll => simp only [step]; split <;> exact ⟨h, id⟩
  | cycle =>
    simp only [step]
    split
    · exact ⟨h, id⟩
    · split <;> exact ⟨h, id⟩
  | _ => exact ⟨h, id⟩

theorem inv_run_sh (ops : List Op) (s : S) (h : Shares.Inv s.sh) : Shares.Inv (run s ops).sh :=
  List.foldlRecOn (motive := fun s => Shares.Inv s.sh) ops _ h fun s hs op _ => (wf_parts_step s op hs).1

theorem wf_step (s : S) (op : Op) (h : WF s) : WF (step s op).1 :=
  ⟨(wf_parts_step s op h.sh).1, (wf_parts_step s op h.sh).2 h.dirs⟩

theorem wf_run (ops : List Op) (s : S) (h : WF s) : WF (run s ops) :=
  List.foldlRecOn (motive := WF) ops _ h fun s hs op _ => wf_step s op hs

theorem reload_silent (s : S) (h : WF s) (es : List DirInfo)
    (ha : (!es.isEmpty || !(droppedBy s.sh (es.map (·.path))).isEmpty) = false) :
    es = [] ∧ s.cfg.dirs = [] ∧ s.sh.items = [] := by
  simp only [Bool.or_eq_false_iff, Bool.not_eq_false', List.isEmpty_iff] at ha
  obtain ⟨rfl, h2⟩ := ha
  have hp : s.sh.paths = [] := List.eq_nil_iff_forall_not_mem.2 (by simpa [droppedBy] using h2)
  refine ⟨rfl, List.eq_nil_iff_forall_not_mem.2 fun d hd => ?_, List.eq_nil_iff_forall_not_mem.2 fun it hit => ?_⟩
  · simpa [hp] using h.dirs d hd
  · simpa [hp] using h.sh.owner it hit

/-- `op` has taken `s` to `s'` without announcing anything, and has changed nothing there is to announce: a
polled setting only if `op` is the op that assigns it; the configured directories and the index not at all,
provided `s` is reachable (a reload that names no directory is silent when none was shared). -/
structure Quiet (op : Op) (s s' : S) : Prop where
  flag : s'.sharesChanged = s.sharesChanged
  seenFriends : s'.seenFriends = s.seenFriends
  seenBlocked : s'.seenBlocked = s.seenBlocked
  friends : s'.cfg.friends = s.cfg.friends ∨ ∃ l, op = .mutFriends l
  blocked : s'.cfg.blocked = s.cfg.blocked ∨ ∃ l, op = .mutBlocked l
  index : WF s → s'.cfg.dirs = s.cfg.dirs ∧ s'.sh.items = s.sh.items

theorem Quiet.refl {op : Op} {s : S} : Quiet op s s := ⟨rfl, rfl, rfl, Or.inl rfl, Or.inl rfl, fun _ => ⟨rfl, rfl⟩⟩

theorem step_flag_or_quiet (s : S) (op : Op) (hop : op ≠ .cycle) :
    (step s op).1.sharesChanged = true ∨ Quiet op s (step s op).1 := by
  cases op with
  | cycle => exact absurd rfl hop
  | setFriends l => exact Or.inl rfl
  | setBlocked l => exact Or.inl rfl
  | scanAll disk => exact Or.inl rfl
  | share d disk | unshare p | setMode p m | poll =>
    -- done, and the flag is raised; or refused (nothing to poll), and nothing changes
    simp only [step]
    split
    · exact Or.inl rfl
    · exact Or.inr .refl
  | mutFriends l => exact Or.inr ⟨rfl, rfl, rfl, Or.inr ⟨l, rfl⟩, Or.inl rfl, fun _ => ⟨rfl, rfl⟩⟩
  | mutBlocked l => exact Or.inr ⟨rfl, rfl, rfl, Or.inl rfl, Or.inr ⟨l, rfl⟩, fun _ => ⟨rfl, rfl⟩⟩
  | reload es disk =>
    simp only [step]
    split
    · exact Or.inr .refl
    · cases ha : (!es.isEmpty || !(droppedBy s.sh (es.map (·.path))).isEmpty)
      · -- nothing announced: nothing was listed, nothing was shared
        refine Or.inr ⟨by simp, rfl, rfl, Or.inl rfl, Or.inl rfl, fun hwf => ?_⟩
        obtain ⟨rfl, h2, h3⟩ := reload_silent s hwf es ha
        exact ⟨h2.symm, by simp [h3, reloadSh]⟩
      · exact Or.inl (by simp)
  | _ => exact Or.inr ⟨rfl, rfl, rfl, Or.inl rfl, Or.inl rfl, fun _ => ⟨rfl, rfl⟩⟩

theorem flag_persists (s : S) (op : Op) (hop : op ≠ .cycle) (h : s.sharesChanged = true) :
    (step s op).1.sharesChanged = true := by
  rcases step_flag_or_quiet s op hop with h' | h'
  · exact h'
  · exact h'.flag.trans h

theorem flag_persists_run (ops : List Op) (hops : ∀ o ∈ ops, o ≠ .cycle) (s : S) (h : s.sharesChanged = true) :
    (run s ops).sharesChanged = true :=
  List.foldlRecOn (motive := fun s => s.sharesChanged = true) ops _ h fun s hs o ho => flag_persists s o (hops o ho) hs

theorem pending_persists (s : S) (op : Op) (hop : op ≠ .cycle) (hnf : flipsBack s op = false)
    (h : pending s = true) : pending (step s op).1 = true := by
  by_cases hfl : s.sharesChanged = true
  · simp [pending, flag_persists s op hop hfl]
  have hfl : s.sharesChanged = false := by simpa using hfl
  rcases step_flag_or_quiet s op hop with h' | h'
  · simp [pending, h']
  · -- the flag and the user manager's copies are as before: only the op that assigns a setting matters
    simp only [pending, h'.flag, h'.seenFriends, h'.seenBlocked, hfl, Bool.false_or, Bool.or_eq_true, bne_iff_ne,
      ne_eq] at h ⊢
    rcases h'.friends with hfr | ⟨l, rfl⟩
    · rcases h'.blocked with hbl | ⟨l, rfl⟩
      · rwa [hfr, hbl]
      · by_cases hfs : s.cfg.friends = s.seenFriends
        · refine Or.inr fun (hl : l = s.seenBlocked) => ?_
          subst hl
          simp [flipsBack, hfl, hfs, h.resolve_left (not_not_intro hfs)] at hnf
        · exact Or.inl hfs
    · by_cases hbs : s.cfg.blocked = s.seenBlocked
      · refine Or.inl fun (hl : l = s.seenFriends) => ?_
        subst hl
        simp [flipsBack, hfl, hbs, h.resolve_right (not_not_intro hbs)] at hnf
      · exact Or.inr hbs

theorem pending_persists_run (ops : List Op) (s : S) (hops : ∀ o ∈ ops, o ≠ .cycle) (hnf : noFlipBack s ops = true)
    (h : pending s = true) : pending (run s ops) = true := by
  induction ops generalizing s with
  | nil => exact h
  | cons o ops ih =>
    simp only [noFlipBack, Bool.and_eq_true, Bool.not_eq_true'] at hnf
    exact ih _ (fun o' ho' => hops o' (List.mem_cons_of_mem _ ho')) hnf.2
      (pending_persists s o (hops o List.mem_cons_self) hnf.1 h)

end AioslskVerif.Entitle
