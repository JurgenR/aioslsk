import AioslskVerif.Model.Stream
import AioslskVerif.Proofs.Wire
import AioslskVerif.Proofs.Obfs
/-! The reader loop (C02): what a well-formed frame looks like on the wire, what one step of the loop
does with it, and how every run of the loop ends. -/
namespace AioslskVerif.Stream
open AioslskVerif.Wire AioslskVerif

theorem hdrSize_pos (obf : Bool) : 0 < hdrSize obf := by unfold hdrSize; split <;> omega

theorem frameLen_le32 (n : Nat) (h : n < 4294967296) : frameLen false (le32 n) = n := by
  have := rd32_le32 n h []
  rw [List.append_nil] at this
  simp [frameLen, this]

theorem wireFrame_split (obf : Bool) (k b : Bytes) (hk : k.length = 4) (hb : b.length < 4294967296) :
    ∃ H B, wireFrame (if obf then some k else none) b = H ++ B ∧ H.length = hdrSize obf ∧
      B.length = b.length ∧ frameLen obf H = b.length ∧ plain obf (H ++ B) = le32 b.length ++ b := by
  cases obf with
  | false => exact ⟨le32 b.length, b, rfl, rfl, rfl, frameLen_le32 _ hb, rfl⟩
  | true =>
    refine ⟨k ++ Obfs.encSpec k 0 (le32 b.length), Obfs.encSpec k 4 b, ?_, ?_, Obfs.encSpec_length .., ?_, ?_⟩
    · show Obfs.encode k _ = _
      rw [Obfs.encode_eq, Obfs.encSpec_append, List.append_assoc]; rfl
    · rw [List.length_append, Obfs.encSpec_length, hk]; rfl
    · show frameLen false (Obfs.decode _) = _
      rw [← Obfs.encode_eq, Obfs.decode_encode _ _ hk, frameLen_le32 _ hb]
    · show Obfs.decode _ = _
      rw [List.append_assoc, show 4 = 0 + (le32 b.length).length from rfl, ← Obfs.encSpec_append,
        ← Obfs.encode_eq, Obfs.decode_encode _ _ hk]

theorem readerAux_frame {μ : Type} (obf : Bool) (decode : Bytes → Option μ) (fuel : Nat)
    (k b rest : Bytes) (hk : k.length = 4) (hb : b.length < 4294967296) :
    readerAux obf decode (fuel + 1) (wireFrame (if obf then some k else none) b ++ rest) =
      (match decode (le32 b.length ++ b) with | some m => [Event.deliver m] | none => [])
        ++ readerAux obf decode fuel rest := by
  obtain ⟨H, B, hw, hH, hB, hlen, hplain⟩ := wireFrame_split obf k b hk hb
  have hp := hdrSize_pos obf
  have h1 : (H ++ (B ++ rest)).isEmpty = false := by
    cases H with
    | nil => rw [← hH] at hp; cases hp
    | cons _ _ => rfl
  have h2 : ¬ (H ++ (B ++ rest)).length < hdrSize obf := by rw [List.length_append]; omega
  have h3 : ¬ (B ++ rest).length < b.length := by rw [List.length_append]; omega
  rw [hw, List.append_assoc, readerAux]
  simp only [h1, Bool.false_eq_true, if_false, if_neg h2, List.take_left' hH, List.drop_left' hH, hlen,
    if_neg h3, List.take_left' hB, List.drop_left' hB, hplain]
  cases decode (le32 b.length ++ b) <;> rfl

theorem readerSilentAux_spec {μ : Type} (obf : Bool) (decode : Bytes → Option μ) : ∀ (fuel : Nat) (s : Bytes),
    ∃ (ms : List μ) (c : Close), readerAux obf decode fuel s = ms.map Event.deliver ++ [Event.closed c] ∧
      readerSilentAux obf decode fuel s = ms.map Event.deliver ++ [Event.closed .timeout]
  | 0, s => ⟨[], .readError, rfl, rfl⟩
  | fuel + 1, s => by
    rw [readerAux, readerSilentAux]
    by_cases hh : s.length < hdrSize obf
    · -- no complete header: EOF or a read error at once; silence runs into the time-out
      rw [if_pos hh, if_pos hh]
      split
      · exact ⟨[], .eof, rfl, rfl⟩
      · exact ⟨[], .readError, rfl, rfl⟩
    · have he : s.isEmpty = false := by
        cases s with
        | nil => exact absurd (hdrSize_pos obf) hh
        | cons _ _ => rfl
      simp only [he, Bool.false_eq_true, if_false, if_neg hh]
      split
      · split
        · exact ⟨[], .eof, rfl, rfl⟩
        · exact ⟨[], .readError, rfl, rfl⟩
      · obtain ⟨ms, c, h1, h2⟩ := readerSilentAux_spec obf decode fuel
          ((s.drop (hdrSize obf)).drop (frameLen obf (s.take (hdrSize obf))))
        rw [h1, h2]
        split
        · next m _ => exact ⟨m :: ms, c, rfl, rfl⟩
        · exact ⟨ms, c, rfl, rfl⟩

end AioslskVerif.Stream
